import KikiVerif.LR.Cert
import KikiVerif.LR.Early
import KikiVerif.LR.Extend
import KikiVerif.LR.Gen
import KikiVerif.LR.Snd
import KikiVerif.LR.Via
import KikiVerif.Model.Ast
import KikiVerif.Model.Driver
import KikiVerif.Model.Emit
import KikiVerif.Model.Encode
import KikiVerif.Model.FrontParse
import KikiVerif.Model.Generate
import KikiVerif.Model.Hash
import KikiVerif.Model.Machine
import KikiVerif.Model.Oset
import KikiVerif.Model.Table
import KikiVerif.Model.Text
import KikiVerif.Model.Tokenize
import KikiVerif.Model.Validate
import KikiVerif.Spec.Lex
import KikiVerif.Spec.Unparse
import KikiVerif.Spec.WellFormed
import KikiVerif.Proofs.Basic
import KikiVerif.Proofs.Res
import KikiVerif.Proofs.Names
import KikiVerif.Proofs.Assemble
import KikiVerif.Proofs.Build
import KikiVerif.Proofs.Canonical
import KikiVerif.Proofs.LalrConflict
import KikiVerif.Proofs.Closure
import KikiVerif.Proofs.Cores
import KikiVerif.Proofs.RuleTable
import KikiVerif.Proofs.CstToAst
import KikiVerif.Proofs.Encode
import KikiVerif.Proofs.First
import KikiVerif.Proofs.FirstSound
import KikiVerif.Proofs.NoPanic
import KikiVerif.Proofs.NoPanicGen
import KikiVerif.Proofs.Generator
import KikiVerif.Proofs.Normalize
import KikiVerif.Proofs.TableCells
import KikiVerif.Proofs.TermBuild
import KikiVerif.Proofs.TermClosure
import KikiVerif.Proofs.TermFirst
import KikiVerif.Proofs.Tight
import KikiVerif.Proofs.Universal
import KikiVerif.Proofs.Emit
import KikiVerif.Proofs.EmitTotal
import KikiVerif.Proofs.Pipeline
import KikiVerif.LR.Halt
import KikiVerif.Proofs.HaltFront
import KikiVerif.Proofs.FrontTables
import KikiVerif.Proofs.Total
import KikiVerif.Proofs.Relabel
import KikiVerif.Proofs.Layout
import KikiVerif.Proofs.Lexeme
import KikiVerif.Proofs.Separator
import KikiVerif.Proofs.Oset
import KikiVerif.Proofs.ParseErr
import KikiVerif.Proofs.Positions
import KikiVerif.Proofs.Perm
import KikiVerif.Proofs.Run
import KikiVerif.Proofs.Shift
import KikiVerif.Proofs.Table
import KikiVerif.Proofs.Text
import KikiVerif.Proofs.Tokenize
import KikiVerif.Proofs.Truthful
import KikiVerif.Proofs.Valid
import KikiVerif.Proofs.Want
import KikiVerif.Proofs.Validate
import KikiVerif.Properties.C01
import KikiVerif.Properties.C02
import KikiVerif.Properties.C03
import KikiVerif.Properties.C04
import KikiVerif.Properties.C05
import KikiVerif.Properties.C06
import KikiVerif.Properties.C07
import KikiVerif.Properties.C08
import KikiVerif.Properties.C09
import KikiVerif.Properties.C10
import KikiVerif.Properties.C11
import KikiVerif.Properties.C12
import KikiVerif.Properties.C13
import KikiVerif.Properties.C14
import KikiVerif.Properties.C15
import KikiVerif.Properties.C16
import KikiVerif.Properties.C17
import KikiVerif.Properties.C18
import KikiVerif.Driver.Sexp
