import KikiVerif.LR.Gen
/-!
The error is not reported early: if the run on `pre ++ a :: r` stops with an error while `a` is the
lookahead, then no continuation `pre ++ a :: r'` is a sentence.  Only `Complete` is needed: the parser
looks at nothing but the kind of the lookahead, so the run on `pre ++ a :: r'` reaches the same error, while
completeness would make it accept.
-/
namespace KikiVerif.LR
variable {T N P : Type}

theorem step_head (g : Grammar T N) (A : Auto T N) (ss : List Nat) (ns : List (Tree T P)) (x : Tok T P)
    (r r' : List (Tok T P)) :
    (step g A ⟨ss, ns, x :: r⟩ = .err → step g A ⟨ss, ns, x :: r'⟩ = .err) ∧
    (∀ c1, step g A ⟨ss, ns, x :: r⟩ = .cont c1 →
      (c1.rest = x :: r ∧ step g A ⟨ss, ns, x :: r'⟩ = .cont ⟨c1.states, c1.nodes, x :: r'⟩) ∨
      (c1.rest = r ∧ step g A ⟨ss, ns, x :: r'⟩ = .cont ⟨c1.states, c1.nodes, r'⟩)) := by
  unfold step
  simp only [la, List.head?_cons, Option.map_some]
  cases ss with
  | nil => exact ⟨nofun, nofun⟩
  | cons top tl =>
    simp only
    cases A.action top (some x.kind) with
    | shift s =>
      simp only
      exact ⟨nofun, fun c1 h => by cases h; exact Or.inr ⟨rfl, rfl⟩⟩
    | reduce j =>
      simp only
      cases g.rules[j]? with
      | none => exact ⟨nofun, nofun⟩
      | some rule =>
        simp only
        split
        · exact ⟨nofun, nofun⟩
        · split
          · exact ⟨nofun, nofun⟩
          · split
            · exact ⟨id, nofun⟩
            · exact ⟨nofun, fun c1 h => by cases h; exact Or.inl ⟨rfl, rfl⟩⟩
    | accept =>
      simp only
      cases ns <;> exact ⟨nofun, nofun⟩
    | err => exact ⟨id, nofun⟩

theorem steps_rest_le {g : Grammar T N} {A : Auto T N} {c c' : Cfg T P} (h : Steps g A c c') :
    c'.rest.length ≤ c.rest.length := by
  induction h with
  | refl => exact Nat.le_refl _
  | head hs _ ih => exact Nat.le_trans ih (step_rest_le hs)

/-- as long as `a` has not been shifted, the run does not depend on what follows `a` -/
theorem steps_replace {g : Grammar T N} {A : Auto T N} {a : Tok T P} {r r' : List (Tok T P)} :
    ∀ {c0 c : Cfg T P}, Steps g A c0 c → ∀ q q2, c0.rest = q ++ a :: r → c.rest = q2 ++ a :: r →
      Steps g A ⟨c0.states, c0.nodes, q ++ a :: r'⟩ ⟨c.states, c.nodes, q2 ++ a :: r'⟩ := by
  intro c0 c h
  induction h with
  | refl c =>
    intro q q2 h1 h2
    cases (List.append_left_inj _).mp (h1.symm.trans h2)
    exact .refl _
  | @head c c1 c2 hs hrest ih =>
    intro q q2 h1 h2
    obtain ⟨ss, ns, rest⟩ := c
    simp only at h1
    subst h1
    cases q with
    | nil =>
      simp only [List.nil_append] at hs ⊢
      rcases (step_head g A ss ns a r r').2 c1 hs with ⟨e1, e2⟩ | ⟨e1, _⟩
      · exact .head e2 (ih [] q2 (by simpa using e1) h2)
      · -- `a` was shifted: the rest is shorter than `a :: r` from now on
        have := steps_rest_le hrest
        rw [e1, h2] at this
        simp at this
        omega
    | cons x q1 =>
      simp only [List.cons_append] at hs ⊢
      rcases (step_head g A ss ns x (q1 ++ a :: r) (q1 ++ a :: r')).2 c1 hs with ⟨e1, e2⟩ | ⟨e1, e2⟩
      · exact .head e2 (ih (x :: q1) q2 (by simpa using e1) h2)
      · exact .head e2 (ih q1 q2 e1 h2)

theorem error_not_sentence {g : Grammar T N} {A : Auto T N} (hc : Complete (P := P) g A)
    {w : List (Tok T P)} {c : Cfg T P}
    (hrun : Steps g A ⟨[A.start], [], w⟩ c) (herr : step g A c = .err)
    (t : Tree T P) (hwf : WF g t (.n g.start)) : t.yield ≠ w := by
  rintro rfl
  have := stuck_ok hc hwf hrun (by simp [herr])
  rw [herr] at this
  cases this

/-- an error stop excludes every sentence with the same tokens up to and including the lookahead: the run on
`pre ++ a :: r'` reaches the same error -/
theorem no_early_error {g : Grammar T N} {A : Auto T N} (hc : Complete (P := P) g A)
    {pre : List (Tok T P)} {a : Tok T P} {r : List (Tok T P)} {c : Cfg T P}
    (hrun : Steps g A ⟨[A.start], [], pre ++ a :: r⟩ c) (hrest : c.rest = a :: r) (herr : step g A c = .err)
    (r' : List (Tok T P)) (t : Tree T P) (hwf : WF g t (.n g.start)) : t.yield ≠ pre ++ a :: r' := by
  obtain ⟨ss, ns, rest⟩ := c
  cases hrest
  exact error_not_sentence hc (steps_replace (r' := r') hrun pre [] rfl rfl)
    ((step_head g A ss ns a r r').1 herr) t hwf

end KikiVerif.LR
