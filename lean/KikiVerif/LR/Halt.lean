/-
Termination of the table-driven LR driver from a *checked potential*.

The driver (`LR.step`, iterated by `LR.runCfg`) consumes one token per shift, so only runs of reductions
under one fixed lookahead can make it diverge.  A reduction by `A → α` in top state `s` pops `|α|` states,
exposes a state `v` from which `s` is reached by `|α|` transitions, and pushes `goto v A`.  Give every pair
(lookahead column `a`, state `s`) a potential `φ a s : Nat` and pick a weight `cc` for the stack height.  If

      cc + φ a (goto v A) + 1  ≤  cc · |α| + φ a s          (★)

holds for every such `(a, s, v)`, then `cc · height + φ a top` strictly decreases with every reduction, and
`|rest| · (cc + max φ + 1) + cc · height + φ a top` strictly decreases with *every* step.  Hence the driver
stops after at most `(|w| + 1) · (cc + max φ + 1)` steps on every input `w` — sentence or not.

`haltsB` checks (★) on plain data (a `Valid.Cert`: ACTION and GOTO rows) over all `v` that reach `s` by `|α|`
transitions (an over-approximation of the states a reduction can expose).  `findPot` searches a potential by
relaxation; it is *not trusted*: only the final check enters the proof.  (A potential exists iff the graph of
possible reductions under one lookahead has no cycle that does not lower the stack.)

A second, sharper certificate (`haltsF`: the reduce runs simulated on the known top of the stack) follows below.
-/
import KikiVerif.LR.Cert
import KikiVerif.Proofs.Basic

namespace KikiVerif
namespace Halt
open LR Valid

abbrev Pot := List (List Nat)

def Pot.get (φ : Pot) (a s : Nat) : Nat := (φ.getD a []).getD s 0

def rowMax (l : List Nat) : Nat := l.foldl max 0
def pmax (φ : Pot) : Nat := rowMax (φ.map rowMax)

theorem le_rowMax {l : List Nat} {x : Nat} (h : x ∈ l) : x ≤ rowMax l := (l.le_foldl_max 0).2 x h

theorem get_le_pmax (φ : Pot) (a s : Nat) : φ.get a s ≤ pmax φ := by
  unfold Pot.get
  rw [List.getD_eq_getElem?_getD, List.getD_eq_getElem?_getD]
  cases hrow : φ[a]? with
  | none => simp
  | some row =>
    cases hx : row[s]? with
    | none => simp [hx]
    | some x =>
      simp only [Option.getD_some, hx]
      exact Nat.le_trans (le_rowMax (List.mem_of_getElem? hx))
        (le_rowMax (List.mem_map.mpr ⟨row, List.mem_of_getElem? hrow, rfl⟩))

/-- the ACTION column of a lookahead: terminals `0..nT-1`, end of input `nT` -/
def col (C : Cert) : La Nat → Nat
  | none => C.nT
  | some c => c

def actCol (C : Cert) (s a : Nat) : Action := ((C.actions[s]?).bind (·[a]?)).getD .err

theorem act_eq {C : Cert} {s : Nat} {l : La Nat} {A : Action} (h : C.act s l = A) (hA : A ≠ .err) :
    actCol C s (col C l) = A ∧ col C l < C.nT + 1 := by
  subst h
  cases l with
  | none => exact ⟨rfl, Nat.lt_succ_self _⟩
  | some c =>
    unfold Cert.act at hA ⊢
    simp only at hA ⊢
    split
    · rename_i hc; exact ⟨rfl, Nat.lt_succ_of_lt hc⟩
    · rename_i hc; simp [hc] at hA

def shiftTarget : Action → Option Nat
  | .shift t => some t
  | _ => none

/-- every state a shift or a goto can push on top of `v` -/
def succs (C : Cert) (v : Nat) : List Nat :=
  (C.actions.getD v []).filterMap shiftTarget ++ (C.gotos.getD v []).filterMap id

theorem mem_row {α} {tbl : List (List α)} {i j : Nat} {x : α} (h : (tbl[i]?).bind (·[j]?) = some x) :
    x ∈ tbl.getD i [] := by
  obtain ⟨row, hrow, hx⟩ := Option.bind_eq_some_iff.mp h
  rw [List.getD_eq_getElem?_getD, hrow]
  exact List.mem_of_getElem? hx

theorem mem_succs_of_shift {C : Cert} {v w : Nat} {l : La Nat} (h : C.act v l = .shift w) : w ∈ succs C v := by
  have := (act_eq h nofun).1
  refine List.mem_append_left _ (List.mem_filterMap.mpr ⟨.shift w, mem_row (j := col C l) ?_, rfl⟩)
  simpa [actCol, Option.getD_eq_iff] using this

theorem mem_succs_of_goto {C : Cert} {v w B : Nat} (h : C.goto v B = some w) : w ∈ succs C v :=
  List.mem_append_right _ (List.mem_filterMap.mpr ⟨some w, mem_row (Option.join_eq_some_iff.mp h), rfl⟩)

/-- the state stack is a path of the automaton, top first, inside `0..n-1` -/
inductive StackOK (C : Cert) (n : Nat) : List Nat → Prop
  | one {s} : s < n → StackOK C n [s]
  | push {w v rest} : w < n → w ∈ succs C v → StackOK C n (v :: rest) → StackOK C n (w :: v :: rest)

theorem StackOK.head_lt {C : Cert} {n : Nat} {s : Nat} {st : List Nat} (h : StackOK C n (s :: st)) : s < n := by
  cases h with
  | one h => exact h
  | push h _ _ => exact h

def preds (C : Cert) (n : Nat) (S : List Nat) : List Nat :=
  (List.range n).filter fun v => (succs C v).any fun w => S.contains w

/-- the states from which `s` is reached by `k` transitions -/
def predk (C : Cert) (n : Nat) (s : Nat) : Nat → List Nat
  | 0 => [s]
  | k + 1 => preds C n (predk C n s k)

theorem StackOK.drop {C : Cert} {n : Nat} {top : Nat} {st : List Nat} (h : StackOK C n (top :: st)) :
    ∀ k t' st', (top :: st).drop k = t' :: st' → StackOK C n (t' :: st') ∧ t' ∈ predk C n top k := by
  intro k
  induction k with
  | zero => intro t' st' hd; cases hd; exact ⟨h, List.mem_singleton.mpr rfl⟩
  | succ k ih =>
    intro t' st' hd
    rw [← List.tail_drop] at hd
    cases hk : (top :: st).drop k with
    | nil => rw [hk] at hd; cases hd
    | cons w rest =>
      rw [hk] at hd
      cases hd
      obtain ⟨hw, hm⟩ := ih w _ hk
      cases hw with
      | push _ hl hrest =>
        refine ⟨hrest, ?_⟩
        simp only [predk, preds, List.mem_filter, List.mem_range, List.any_eq_true, List.contains_iff_mem]
        exact ⟨hrest.head_lt, w, hl, hm⟩

/-- the inequality (★) for every lookahead column, reducing state and exposable state -/
def redOK (C : Cert) (g : Grammar Nat Nat) (n cc : Nat) (φ : Pot) : Bool :=
  (List.range (C.nT + 1)).all fun a => (List.range n).all fun s =>
    match actCol C s a with
    | .reduce r =>
      match g.rules[r]? with
      | none => true
      | some rule =>
        (predk C n s rule.rhs.length).all fun v =>
          match C.goto v rule.lhs with
          | none => true
          | some s' => decide (cc + φ.get a s' + 1 ≤ cc * rule.rhs.length + φ.get a s)
    | _ => true

def rangeOK (C : Cert) (n : Nat) : Bool :=
  decide (C.start < n) && (List.range n).all fun v => (succs C v).all fun w => decide (w < n)

def haltsB (C : Cert) (g : Grammar Nat Nat) (cc : Nat) (φ : Pot) : Bool :=
  rangeOK C C.actions.length && redOK C g C.actions.length cc φ

variable {P : Type}

def K (cc : Nat) (φ : Pot) : Nat := cc + pmax φ + 1

/-- the measure: strictly decreasing along every step -/
def psi (C : Cert) (cc : Nat) (φ : Pot) (c : Cfg Nat P) : Nat :=
  c.rest.length * K cc φ + cc * c.states.length + φ.get (col C (la c.rest)) (c.states.headD 0)

theorem rangeOK_use {C : Cert} {n : Nat} (h : rangeOK C n = true) :
    C.start < n ∧ ∀ v, v < n → ∀ w ∈ succs C v, w < n := by
  simpa [rangeOK] using h

theorem step_cont_col {C : Cert} {g : Grammar Nat Nat} {c c' : Cfg Nat P} (hs : step g (mkAuto C) c = .cont c') :
    col C (la c.rest) < C.nT + 1 := by
  rcases step_cases hs with ⟨top, _, _, _, _, _, _, (hact : C.act top _ = _), _⟩ |
      ⟨top, _, _, _, _, _, _, _, (hact : C.act top _ = _), _⟩
  · exact (act_eq hact nofun).2
  · exact (act_eq hact nofun).2

theorem stackOK_step {C : Cert} {g : Grammar Nat Nat} {n : Nat} (hrange : rangeOK C n = true) {c c' : Cfg Nat P}
    (hst : StackOK C n c.states) (hs : step g (mkAuto C) c = .cont c') : StackOK C n c'.states := by
  have hlt := (rangeOK_use hrange).2
  rcases step_cases hs with ⟨top, sts, _, _, s, hstates, _, (hact : C.act top _ = _), hst', _⟩ |
      ⟨_, _, _, rule, t', st', s', hstates, _, _, hdrop, (hgoto : C.goto t' _ = _), hst', _⟩
  · have hmem := mem_succs_of_shift hact
    rw [hst']
    rw [hstates] at hst ⊢
    exact .push (hlt top hst.head_lt s hmem) hmem hst
  · have hmem := mem_succs_of_goto hgoto
    rw [hstates] at hst hdrop
    have htail := (hst.drop _ _ _ hdrop).1
    rw [hst']
    exact .push (hlt t' htail.head_lt s' hmem) hmem htail

theorem step_decreases {C : Cert} {g : Grammar Nat Nat} {cc : Nat} {φ : Pot}
    (hh : haltsB C g cc φ = true) {c c' : Cfg Nat P} (hst : StackOK C C.actions.length c.states)
    (hs : step g (mkAuto C) c = .cont c') : psi C cc φ c' + 1 ≤ psi C cc φ c := by
  rcases step_cases hs with ⟨top, sts, tok, rest, s, hstates, hrest, _, hst', hrest'⟩ |
      ⟨top, sts, r, rule, t', st', s', hstates, (hact : C.act top _ = _), hrule, hdrop,
        (hgoto : C.goto t' _ = _), hst', hrest'⟩
  · -- shift: one token less pays for the new top and the higher stack
    have b1 := get_le_pmax φ (col C (la rest)) s
    simp only [psi, K, hst', hrest', hrest, hstates, List.length_cons, List.headD_cons, Nat.add_mul, Nat.mul_add]
    omega
  · -- reduce: (★) at the exposed state `t'`
    obtain ⟨hcol, hcollt⟩ := act_eq hact nofun
    rw [hstates] at hst hdrop
    have hineq := (Bool.and_eq_true_iff.mp hh).2
    simp only [redOK, List.all_eq_true, List.mem_range] at hineq
    replace hineq := hineq _ hcollt top hst.head_lt
    simp only [hcol, hrule, List.all_eq_true] at hineq
    replace hineq := hineq t' (hst.drop _ _ _ hdrop).2
    simp only [hgoto, decide_eq_true_eq] at hineq
    have hlen : sts.length + 1 = rule.rhs.length + (st'.length + 1) := by
      have := congrArg List.length hdrop
      simp only [List.length_drop, List.length_cons] at this
      omega
    simp only [psi, hst', hrest', hstates, List.length_cons, List.headD_cons, hlen, Nat.mul_add]
    omega

theorem runCfg_halts {C : Cert} {g : Grammar Nat Nat} {cc : Nat} {φ : Pot} (hh : haltsB C g cc φ = true) :
    ∀ (fuel : Nat) (c : Cfg Nat P), StackOK C C.actions.length c.states → psi C cc φ c < fuel →
      ∃ r, runCfg g (mkAuto C) fuel c = some r := by
  intro fuel
  induction fuel with
  | zero => intro c _ h; omega
  | succ fuel ih =>
    intro c hst hlt
    unfold runCfg
    cases hs : step g (mkAuto C) c with
    | cont c' =>
      have := step_decreases hh hst hs
      exact ih c' (stackOK_step (Bool.and_eq_true_iff.mp hh).1 hst hs) (by omega)
    | _ => exact ⟨_, rfl⟩

/-- **the driver stops on every input**, within `(|w| + 1) · (cc + max φ + 1)` steps -/
theorem run_halts {C : Cert} {g : Grammar Nat Nat} {cc : Nat} {φ : Pot} (hh : haltsB C g cc φ = true)
    (w : List (Tok Nat P)) :
    ∃ r, runCfg g (mkAuto C) ((w.length + 1) * K cc φ) ⟨[C.start], [], w⟩ = some r := by
  refine runCfg_halts hh _ _ (.one (rangeOK_use (Bool.and_eq_true_iff.mp hh).1).1) ?_
  have b1 := get_le_pmax φ (col C (la w)) C.start
  simp only [psi, K, List.length_cons, List.length_nil, List.headD_cons, Nat.add_mul, Nat.mul_add]
  omega

/-! ### searching a potential (untrusted) -/

/-- one relaxation pass for one lookahead column: `φ s := max (φ s) (φ (goto v A) + cc + 1 - cc·|α|)` -/
def relaxRow (C : Cert) (g : Grammar Nat Nat) (n cc a : Nat) (row : List Nat) : List Nat :=
  (List.range n).map fun s =>
    let cur := row.getD s 0
    match actCol C s a with
    | .reduce r =>
      match g.rules[r]? with
      | none => cur
      | some rule =>
        (predk C n s rule.rhs.length).foldl (fun m v =>
          match C.goto v rule.lhs with
          | none => m
          | some s' => max m (row.getD s' 0 + cc + 1 - cc * rule.rhs.length)) cur
    | _ => cur

def relaxLoop (C : Cert) (g : Grammar Nat Nat) (n cc a : Nat) : Nat → List Nat → List Nat
  | 0, row => row
  | fuel + 1, row =>
    let row' := relaxRow C g n cc a row
    if row' == row then row else relaxLoop C g n cc a fuel row'

/-- weight of the stack height: larger than any simple path is long -/
def ccOf (C : Cert) : Nat := C.actions.length + 1

def findPot (C : Cert) (g : Grammar Nat Nat) : Pot :=
  let n := C.actions.length
  (List.range (C.nT + 1)).map fun a => relaxLoop C g n (ccOf C) a (n + 1) (List.replicate n 0)

/-- the executable certificate check: search, then check -/
def certified (C : Cert) (g : Grammar Nat Nat) : Bool := haltsB C g (ccOf C) (findPot C g)

/-- the number of steps after which the driver has stopped, given a certificate -/
def stepBound (C : Cert) (g : Grammar Nat Nat) (len : Nat) : Nat := (len + 1) * K (ccOf C) (findPot C g)

theorem certified_halts {C : Cert} {g : Grammar Nat Nat} (h : certified C g = true) (w : List (Tok Nat P)) :
    ∃ r, runCfg g (mkAuto C) (stepBound C g w.length) ⟨[C.start], [], w⟩ = some r :=
  run_halts h w

/-! ### a second, sharper certificate: framed simulation of the reduce runs

The potential above looks at the top state only and over-approximates what a reduction exposes, so it can fail on
automata in which one state is entered from several contexts.  The certificate below is exact on the known part of
the stack.  Take the top state `s` and the state `v` under it (the *floor*), and follow the reductions the table
prescribes under lookahead `a` on the two-element stack `[s, v]` alone: as long as a reduction pops less than the
known stack, what it exposes is known, and the simulation is the real run.  It ends when the action is not a
reduction, when a goto is missing, or when a reduction would pop the floor (the run *escapes*).  If every such
simulation — for every lookahead, every transition `v → s`, and every single state — ends within `F` steps, the
driver stops on every input: between two shifts, each escape exposes a state strictly below the previous floor. -/

def redRun (C : Cert) (g : Grammar Nat Nat) (a : Nat) : Nat → List Nat → Bool
  | 0, _ => false
  | f + 1, st =>
    match st with
    | [] => true
    | top :: _ =>
      match actCol C top a with
      | .reduce r =>
        match g.rules[r]? with
        | none => true
        | some rule =>
          match st.drop rule.rhs.length with
          | [] => true
          | t' :: st' =>
            match C.goto t' rule.lhs with
            | none => true
            | some s' => redRun C g a f (s' :: t' :: st')
      | _ => true

def framesOK (C : Cert) (g : Grammar Nat Nat) (n F : Nat) : Bool :=
  (List.range (C.nT + 1)).all fun a => (List.range n).all fun v =>
    redRun C g a F [v] && (succs C v).all fun s => redRun C g a F [s, v]

def haltsF (C : Cert) (g : Grammar Nat Nat) (F : Nat) : Bool :=
  rangeOK C C.actions.length && framesOK C g C.actions.length F

def Halts (g : Grammar Nat Nat) (C : Cert) (c : Cfg Nat P) : Prop :=
  ∃ fuel r, runCfg g (mkAuto C) fuel c = some r

theorem Halts.of_step {g : Grammar Nat Nat} {C : Cert} {c : Cfg Nat P}
    (h : ∀ c', step g (mkAuto C) c = .cont c' → Halts g C c') : Halts g C c := by
  cases hs : step g (mkAuto C) c with
  | cont c' =>
    obtain ⟨fuel, r, hr⟩ := h c' hs
    exact ⟨fuel + 1, r, by simp only [runCfg, hs]; exact hr⟩
  | _ => exact ⟨1, (step g (mkAuto C) c, c), by simp [runCfg, hs]⟩

/-- framing: the real run on `top :: known ++ below` follows the simulation on `top :: known` until it stops,
shifts or escapes -/
theorem frame {C : Cert} {g : Grammar Nat Nat} (hrange : rangeOK C C.actions.length = true)
    (rest : List (Tok Nat P)) (below : List Nat)
    (Hshift : ∀ c' : Cfg Nat P, c'.rest.length < rest.length → StackOK C C.actions.length c'.states → Halts g C c')
    (Hesc : ∀ (j s' t' : Nat) (st' : List Nat) (nodes' : List (Tree Nat P)), below.drop j = t' :: st' →
      StackOK C C.actions.length (s' :: t' :: st') → Halts g C ⟨s' :: t' :: st', nodes', rest⟩) :
    ∀ (f top : Nat) (known : List Nat) (nodes : List (Tree Nat P)),
      (col C (la rest) < C.nT + 1 → redRun C g (col C (la rest)) f (top :: known) = true) →
      StackOK C C.actions.length (top :: known ++ below) → Halts g C ⟨top :: known ++ below, nodes, rest⟩ := by
  intro f
  induction f with
  | zero =>
    -- no simulation fuel: the certificate holds only if the lookahead column is out of range, and then no step continues
    intro top known nodes hcert hst
    exact Halts.of_step fun c' hs => by simpa [redRun] using hcert (step_cont_col hs)
  | succ f ih =>
    intro top known nodes hcert hst
    refine Halts.of_step fun c' hs => ?_
    have hst' := stackOK_step hrange (c := ⟨top :: known ++ below, nodes, rest⟩) hst hs
    obtain ⟨cs, cn, cr⟩ := c'
    rcases step_cases hs with ⟨_, _, tok, rest', s, _, hrest, _, _, hcr⟩ |
        ⟨top', sts, r, rule, t', st', s', hstates, (hact : C.act top' _ = _), hrule, hdrop,
          (hgoto : C.goto t' _ = _), hcs, hcr⟩
    · -- shift: the rest gets shorter
      simp only at hrest hcr
      exact Hshift _ (by simp [hcr, hrest]) hst'
    · simp only at hstates hact hdrop hcs hcr hst'
      subst hcs hcr
      cases (List.cons.inj hstates).1
      obtain ⟨hcol, hcollt⟩ := act_eq hact nofun
      have hrun := hcert hcollt
      simp only [redRun, hcol, hrule] at hrun
      cases hK : (top :: known).drop rule.rhs.length with
      | nil =>
        -- escape: the reduction pops the whole known part
        rw [List.drop_append, hK, List.nil_append] at hdrop
        exact Hesc _ s' t' st' _ hdrop hst'
      | cons t'' st'' =>
        have hlen : rule.rhs.length ≤ (top :: known).length :=
          Nat.le_of_not_le fun h => by simp [List.drop_eq_nil_iff.mpr h] at hK
        rw [List.drop_append_of_le_length hlen, hK, List.cons_append] at hdrop
        obtain ⟨rfl, rfl⟩ := List.cons.inj hdrop
        rw [hK] at hrun
        simp only [hgoto] at hrun
        exact ih s' (t'' :: st'') cn (fun _ => hrun) hst'

theorem framesOK_use {C : Cert} {g : Grammar Nat Nat} {n F : Nat} (h : framesOK C g n F = true) {a v : Nat}
    (ha : a < C.nT + 1) (hv : v < n) :
    redRun C g a F [v] = true ∧ ∀ s ∈ succs C v, redRun C g a F [s, v] = true := by
  simpa using List.all_eq_true.mp (List.all_eq_true.mp h a (List.mem_range.mpr ha)) v (List.mem_range.mpr hv)

/-- induction on the length of the rest, then on the height of the stack -/
theorem halts_all {C : Cert} {g : Grammar Nat Nat} {F : Nat} (hh : haltsF C g F = true) (c : Cfg Nat P)
    (hst : StackOK C C.actions.length c.states) : Halts g C c := by
  obtain ⟨hrange, hframes⟩ := Bool.and_eq_true_iff.mp hh
  induction hlen : c.rest.length using Nat.strongRecOn generalizing c with
  | _ len ihlen =>
    induction hheight : c.states.length using Nat.strongRecOn generalizing c with
    | _ h ihh =>
      obtain ⟨states, nodes, rest⟩ := c
      subst hlen hheight
      have Hshift : ∀ c' : Cfg Nat P, c'.rest.length < rest.length → StackOK C C.actions.length c'.states →
          Halts g C c' := fun c' hl hs' => ihlen _ hl c' hs' rfl
      cases hst with
      | @one s hs =>
        exact frame (g := g) hrange rest [] Hshift (fun j s' t' st' nodes' hd _ => by simp at hd)
          F s [] nodes (fun ha => (framesOK_use hframes ha hs).1) (.one hs)
      | @push w v below hw hl hrest' =>
        refine frame (g := g) hrange rest below Hshift ?_ F w [v] nodes
          (fun ha => (framesOK_use hframes ha hrest'.head_lt).2 w hl) (.push hw hl hrest')
        -- an escape exposes a state below the floor: the stack is lower than before
        intro j s' t' st' nodes' hd hs'
        have hl2 : (t' :: st').length ≤ below.length := by rw [← hd, List.length_drop]; omega
        exact ihh _ (by simp only [List.length_cons] at hl2 ⊢; omega) ⟨s' :: t' :: st', nodes', rest⟩ hs' rfl rfl

/-- **the driver stops on every input** (second certificate) -/
theorem run_haltsF {C : Cert} {g : Grammar Nat Nat} {F : Nat} (hh : haltsF C g F = true) (w : List (Tok Nat P)) :
    ∃ fuel r, runCfg g (mkAuto C) fuel ⟨[C.start], [], w⟩ = some r :=
  halts_all hh ⟨[C.start], [], w⟩ (.one (rangeOK_use (Bool.and_eq_true_iff.mp hh).1).1)

/-- simulation fuel: generous.  (A legitimate reduce run on a known stack builds the ε-derivations of nullable
symbols; it is short unless nullable nonterminals nest to exponential size — then the check fails although the
driver stops: the check is sufficient, not necessary.) -/
def simFuel (C : Cert) (g : Grammar Nat Nat) : Nat := 4 * (C.actions.length + g.rules.length) + 2000

/-- the executable check of the second certificate -/
def certifiedF (C : Cert) (g : Grammar Nat Nat) : Bool := haltsF C g (simFuel C g)

theorem certifiedF_halts {C : Cert} {g : Grammar Nat Nat} (h : certifiedF C g = true) (w : List (Tok Nat P)) :
    ∃ fuel r, runCfg g (mkAuto C) fuel ⟨[C.start], [], w⟩ = some r :=
  run_haltsF h w

end Halt
end KikiVerif
