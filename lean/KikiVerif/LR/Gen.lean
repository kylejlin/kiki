/-! The table-driven LR driver over an abstract automaton (`step`, `runCfg`: the loop of the emitted `parse`) and its
completeness under the local conditions `Complete`. -/
namespace KikiVerif.LR

inductive Sym (T N : Type) where
  | t (a : T)
  | n (b : N)
  deriving DecidableEq, Repr

structure Rule (T N : Type) where
  lhs : N
  rhs : List (Sym T N)
  deriving DecidableEq

structure Grammar (T N : Type) where
  rules : List (Rule T N)
  start : N

structure Tok (T P : Type) where
  kind : T
  payload : P

inductive Tree (T P : Type) where
  | leaf (tok : Tok T P)
  | node (rule : Nat) (children : List (Tree T P))

variable {T N P : Type}

mutual
def Tree.yield : Tree T P → List (Tok T P)
  | .leaf t => [t]
  | .node _ cs => yieldList cs
def yieldList : List (Tree T P) → List (Tok T P)
  | [] => []
  | c :: cs => c.yield ++ yieldList cs
end

mutual
inductive WF (g : Grammar T N) : Tree T P → Sym T N → Prop
  | leaf (tok : Tok T P) : WF g (.leaf tok) (.t tok.kind)
  | node (r : Nat) (rule : Rule T N) (cs : List (Tree T P)) :
      g.rules[r]? = some rule → WFL g cs rule.rhs → WF g (.node r cs) (.n rule.lhs)
inductive WFL (g : Grammar T N) : List (Tree T P) → List (Sym T N) → Prop
  | nil : WFL g [] []
  | cons {c cs x xs} : WF g c x → WFL g cs xs → WFL g (c :: cs) (x :: xs)
end

abbrev La (T : Type) := Option T

def la (l : List (Tok T P)) : La T := l.head?.map (·.kind)

/-- an LR(1) item: rule (`none` = the augmented rule `S' → S`), dot, lookahead (`none` = end of input) -/
structure Item (T : Type) where
  rule : Option Nat
  dot : Nat
  la : La T
  deriving DecidableEq

def Grammar.rhsOf (g : Grammar T N) : Option Nat → Option (List (Sym T N))
  | none => some [.n g.start]
  | some i => g.rules[i]?.map (·.rhs)

inductive Action where
  | shift (s : Nat) | reduce (r : Nat) | accept | err
  deriving DecidableEq, Repr

/-- what the driver reads (`action`, `goto`) and what the validity conditions speak of: the item sets, the
transitions `delta`, and `first β a b` for "`b ∈ FIRST(β a)`" -/
structure Auto (T N : Type) where
  start : Nat
  items : Nat → Item T → Prop
  delta : Nat → Sym T N → Option Nat
  action : Nat → La T → Action
  goto : Nat → N → Option Nat
  first : List (Sym T N) → La T → La T → Prop

/-- a configuration of the driver; both stacks have their top first -/
structure Cfg (T P : Type) where
  states : List Nat
  nodes : List (Tree T P)
  rest : List (Tok T P)

inductive StepRes (T P : Type) where
  | ok (t : Tree T P)
  | err
  | panic
  | cont (c : Cfg T P)

def step (g : Grammar T N) (A : Auto T N) (c : Cfg T P) : StepRes T P :=
  match c.states with
  | [] => .panic
  | top :: _ =>
    match A.action top (la c.rest) with
    | .shift s =>
      match c.rest with
      | [] => .panic
      | tok :: rest => .cont { states := s :: c.states, nodes := .leaf tok :: c.nodes, rest := rest }
    | .reduce r =>
      match g.rules[r]? with
      | none => .panic
      | some rule =>
        let k := rule.rhs.length
        if c.nodes.length < k ∨ c.states.length < k then .panic else
        match c.states.drop k with
        | [] => .panic
        | t' :: st' =>
          match A.goto t' rule.lhs with
          | none => .err
          | some s' => .cont { states := s' :: t' :: st', nodes := .node r (c.nodes.take k).reverse :: c.nodes.drop k, rest := c.rest }
    | .accept =>
      match c.nodes with
      | [] => .panic
      | t :: _ => .ok t
    | .err => .err

/-- the `loop { … }` of the emitted `parse`: iterate `step` until it does not continue; returns the
final step result together with the configuration it was taken in.  `none` = out of fuel. -/
def runCfg (g : Grammar T N) (A : Auto T N) : Nat → Cfg T P → Option (StepRes T P × Cfg T P)
  | 0, _ => none
  | fuel + 1, c =>
    match step g A c with
    | .cont c' => runCfg g A fuel c'
    | r => some (r, c)

inductive Steps (g : Grammar T N) (A : Auto T N) : Cfg T P → Cfg T P → Prop
  | refl (c) : Steps g A c c
  | head {c c1 c2} : step g A c = .cont c1 → Steps g A c1 c2 → Steps g A c c2

theorem Steps.trans {g : Grammar T N} {A : Auto T N} {a b c : Cfg T P}
    (h1 : Steps g A a b) (h2 : Steps g A b c) : Steps g A a c := by
  induction h1 with
  | refl => exact h2
  | head hs _ ih => exact .head hs (ih h2)

/-- the local conditions for completeness.  `P` enters through `firstComplete` only (the lookahead of a yield) -/
structure Complete (g : Grammar T N) (A : Auto T N) : Prop where
  start : A.items A.start ⟨none, 0, none⟩
  closure : ∀ s r d a rhs B j rule' b, A.items s ⟨r, d, a⟩ → g.rhsOf r = some rhs →
      rhs[d]? = some (.n B) → g.rules[j]? = some rule' → rule'.lhs = B →
      A.first (rhs.drop (d+1)) a b → A.items s ⟨some j, 0, b⟩
  trans : ∀ s r d a rhs X, A.items s ⟨r, d, a⟩ → g.rhsOf r = some rhs → rhs[d]? = some X →
      ∃ t, A.delta s X = some t ∧ A.items t ⟨r, d+1, a⟩
  shift : ∀ s r d a rhs c t, A.items s ⟨r, d, a⟩ → g.rhsOf r = some rhs → rhs[d]? = some (.t c) →
      A.delta s (.t c) = some t → A.action s (some c) = .shift t
  reduce : ∀ s j a rule, A.items s ⟨some j, rule.rhs.length, a⟩ → g.rules[j]? = some rule →
      A.action s a = .reduce j
  accept : ∀ s, A.items s ⟨none, 1, none⟩ → A.action s none = .accept
  goto : ∀ s B, A.goto s B = A.delta s (.n B)
  firstComplete : ∀ (ts : List (Tree T P)) β (rest : List (Tok T P)), WFL g ts β →
      A.first β (la rest) (la (yieldList ts ++ rest))

theorem rhsOf_some {g : Grammar T N} {j : Nat} {rule : Rule T N} (h : g.rules[j]? = some rule) :
    g.rhsOf (some j) = some rule.rhs := by simp [Grammar.rhsOf, h]

theorem wfl_length {g : Grammar T N} {cs : List (Tree T P)} {xs} (h : WFL g cs xs) :
    cs.length = xs.length := by
  induction cs generalizing xs with
  | nil => cases h; rfl
  | cons c cs ih => cases h with | cons h1 h2 => simp [ih h2]

theorem yieldList_append (a b : List (Tree T P)) : yieldList (a ++ b) = yieldList a ++ yieldList b := by
  induction a with
  | nil => simp [yieldList]
  | cons c cs ih => simp [yieldList, ih]

theorem WFL.append {g : Grammar T N} : ∀ {t1 : List (Tree T P)} {a t2 b}, WFL g t1 a → WFL g t2 b →
    WFL g (t1 ++ t2) (a ++ b) := by
  intro t1
  induction t1 with
  | nil => intro a t2 b h1 h2; cases h1; simpa using h2
  | cons c cs ih => intro a t2 b h1 h2; cases h1 with | cons hc hcs => exact .cons hc (ih hcs h2)

theorem la_append_cons (tok : Tok T P) (l : List (Tok T P)) : la (tok :: l) = some tok.kind := rfl

theorem step_cases {g : Grammar T N} {A : Auto T N} {c c' : Cfg T P} (h : step g A c = .cont c') :
    (∃ top sts tok rest s, c.states = top :: sts ∧ c.rest = tok :: rest ∧ A.action top (la c.rest) = .shift s ∧
        c'.states = s :: c.states ∧ c'.rest = rest) ∨
    (∃ top sts r rule t' st' s', c.states = top :: sts ∧ A.action top (la c.rest) = .reduce r ∧
        g.rules[r]? = some rule ∧ c.states.drop rule.rhs.length = t' :: st' ∧ A.goto t' rule.lhs = some s' ∧
        c'.states = s' :: t' :: st' ∧ c'.rest = c.rest) := by
  unfold step at h
  split at h
  · cases h
  · rename_i top sts hst
    split at h
    · rename_i s hact
      split at h
      · cases h
      · rename_i tok rest hr
        cases h
        exact Or.inl ⟨top, sts, tok, rest, s, hst, hr, hact, rfl, rfl⟩
    · rename_i r hact
      split at h
      · cases h
      · rename_i rule hrule
        simp only at h
        split at h
        · cases h
        · split at h
          · cases h
          · rename_i t' st' hdrop
            split at h
            · cases h
            · rename_i s' hgoto
              cases h
              exact Or.inr ⟨top, sts, r, rule, t', st', s', hst, hact, hrule, hdrop, hgoto, rfl, rfl⟩
    · split at h <;> cases h
    · cases h

theorem step_rest_le {g : Grammar T N} {A : Auto T N} {c c1 : Cfg T P} (h : step g A c = .cont c1) :
    c1.rest.length ≤ c.rest.length := by
  rcases step_cases h with ⟨_, _, _, _, _, _, hr, _, _, hr'⟩ | ⟨_, _, _, _, _, _, _, _, _, _, _, _, _, hr'⟩
  · simp [hr, hr']
  · simp [hr']

theorem step_reduce {g : Grammar T N} {A : Auto T N} {r : Nat} {rule : Rule T N} {top s s' : Nat}
    {pushed ss tl : List Nat} {cs nodes : List (Tree T P)} {rest : List (Tok T P)}
    (hstk : pushed ++ s :: ss = top :: tl) (hact : A.action top (la rest) = .reduce r)
    (hr : g.rules[r]? = some rule) (hp : pushed.length = rule.rhs.length) (hk : cs.length = rule.rhs.length)
    (hg : A.goto s rule.lhs = some s') :
    step g A ⟨pushed ++ s :: ss, cs.reverse ++ nodes, rest⟩ = .cont ⟨s' :: s :: ss, .node r cs :: nodes, rest⟩ := by
  have hn : ¬ ((cs.reverse ++ nodes).length < rule.rhs.length ∨ (pushed ++ s :: ss).length < rule.rhs.length) := by
    simp [← hk, hp]
  have hdrop : (pushed ++ s :: ss).drop rule.rhs.length = s :: ss := by rw [← hp]; simp
  simp only [step, hstk, hact, hr]
  rw [← hstk]
  simp only [hn, if_false, hdrop, hg]
  rw [← hk]; simp

mutual
/-- the run over the yield of a tree for `X` pushes the `X`-successor and the tree -/
theorem parse_tree {g : Grammar T N} {A : Auto T N} (hc : Complete (P := P) g A) {t : Tree T P} {X}
    (h : WF g t X) {top r d a rhs} (ss nodes) (rest : List (Tok T P)) (hit : A.items top ⟨r, d, a⟩)
    (hrhs : g.rhsOf r = some rhs) (hget : rhs[d]? = some X) (hfirst : A.first (rhs.drop (d+1)) a (la rest)) :
    ∃ t1, A.delta top X = some t1 ∧ A.items t1 ⟨r, d+1, a⟩ ∧
      Steps g A ⟨top :: ss, nodes, t.yield ++ rest⟩ ⟨t1 :: top :: ss, t :: nodes, rest⟩ := by
  obtain ⟨t1, hd, hi⟩ := hc.trans top r d a rhs _ hit hrhs hget
  refine ⟨t1, hd, hi, ?_⟩
  match h with
  | .leaf tok =>
    refine .head ?_ (.refl _)
    simp [step, Tree.yield, la, hc.shift top r d a rhs tok.kind t1 hit hrhs hget hd]
  | .node j rule cs hj hcs =>
    obtain ⟨pushed, top', tl, hlen, hstk, hit', hsteps⟩ := parse_children hc hcs ss nodes rest
      (hc.closure top r d a rhs rule.lhs j rule _ hit hrhs hget hj rfl hfirst) (rhsOf_some hj) List.drop_zero
    have hk := wfl_length hcs
    refine hsteps.trans (.head ?_ (.refl _))
    exact step_reduce hstk (hc.reduce top' j _ rule (by simpa [hk] using hit') hj) hj (hlen.trans hk) hk
      (by rw [hc.goto]; exact hd)
theorem parse_children {g : Grammar T N} {A : Auto T N} (hc : Complete (P := P) g A) {cs : List (Tree T P)} {xs}
    (h : WFL g cs xs) {top r d rhs} (ss nodes) (rest : List (Tok T P)) (hit : A.items top ⟨r, d, la rest⟩)
    (hrhs : g.rhsOf r = some rhs) (hdrop : rhs.drop d = xs) :
    ∃ pushed top' tl, pushed.length = cs.length ∧ pushed ++ top :: ss = top' :: tl ∧
      A.items top' ⟨r, d + cs.length, la rest⟩ ∧
      Steps g A ⟨top :: ss, nodes, yieldList cs ++ rest⟩ ⟨pushed ++ top :: ss, cs.reverse ++ nodes, rest⟩ := by
  match h with
  | .nil => exact ⟨[], top, ss, rfl, rfl, hit, .refl _⟩
  | .cons (c := c) (cs := cs) (x := x) (xs := xs) h1 h2 =>
    have hget : rhs[d]? = some x := by rw [← List.head?_drop, hdrop]; rfl
    have hdrop' : rhs.drop (d+1) = xs := by rw [← List.tail_drop, hdrop]; rfl
    -- the lookahead after this child is in FIRST of what follows it in the rule
    obtain ⟨t1, _, hi1, hsteps1⟩ := parse_tree hc h1 ss nodes (yieldList cs ++ rest) hit hrhs hget
      (hdrop' ▸ hc.firstComplete cs xs rest h2)
    obtain ⟨pushed, top', tl, hlen, hstk, hit', hsteps2⟩ :=
      parse_children hc h2 (top :: ss) (c :: nodes) rest hi1 hrhs hdrop'
    refine ⟨pushed ++ [t1], top', tl, by simp [hlen], by simpa using hstk, ?_, ?_⟩
    · rw [List.length_cons, ← Nat.add_assoc, Nat.add_right_comm]; exact hit'
    · rw [yieldList, List.append_assoc]
      exact hsteps1.trans (by simpa using hsteps2)
end

/-- sentence ⇒ accepted, with that very tree -/
theorem run_complete {g : Grammar T N} {A : Auto T N} (hc : Complete (P := P) g A)
    (t : Tree T P) (hwf : WF g t (.n g.start)) :
    ∃ c, Steps g A ⟨[A.start], [], t.yield⟩ c ∧ step g A c = .ok t := by
  obtain ⟨gs, _, hi, hsteps⟩ := parse_tree hc hwf [] [] [] hc.start (rhs := [.n g.start]) rfl rfl
    (by simpa [yieldList, la] using hc.firstComplete ([] : List (Tree T P)) [] [] .nil)
  exact ⟨_, by simpa using hsteps, by simp [step, la, hc.accept gs hi]⟩

theorem steps_det {g : Grammar T N} {A : Auto T N} {c0 c1 c2 : Cfg T P} (h1 : Steps g A c0 c1)
    (h2 : Steps g A c0 c2) (n1 : ∀ c, step g A c1 ≠ .cont c) (n2 : ∀ c, step g A c2 ≠ .cont c) : c1 = c2 := by
  induction h1 with
  | refl c =>
    cases h2 with
    | refl => rfl
    | head hs _ => exact absurd hs (n1 _)
  | head hs _ ih =>
    cases h2 with
    | refl => exact absurd hs (n2 _)
    | head hs' h2' =>
      rw [hs] at hs'
      cases hs'
      exact ih h2' n1

/-- a run on a sentence that cannot go on has stopped with `Ok` of its tree: by determinism it is a prefix of
the accepting run -/
theorem stuck_ok {g : Grammar T N} {A : Auto T N} (hc : Complete (P := P) g A) {t : Tree T P}
    (hwf : WF g t (.n g.start)) {c : Cfg T P} (hrun : Steps g A ⟨[A.start], [], t.yield⟩ c)
    (hstuck : ∀ c', step g A c ≠ .cont c') : step g A c = .ok t := by
  obtain ⟨c2, hs2, hok⟩ := run_complete hc t hwf
  rw [steps_det hrun hs2 hstuck (by simp [hok])]
  exact hok

end KikiVerif.LR

