import KikiVerif.LR.Gen
/-! Safety + soundness from local soundness conditions -/
namespace KikiVerif.LR
variable {T N P : Type}

structure Sound (g : Grammar T N) (A : Auto T N) : Prop where
  /-- items are well formed -/
  wfItem : ∀ s r d a, A.items s ⟨r, d, a⟩ → ∃ rhs, g.rhsOf r = some rhs ∧ d ≤ rhs.length
  /-- start state has only dot-0 items -/
  startDot : ∀ r d a, A.items A.start ⟨r, d, a⟩ → d = 0
  /-- every kernel item of a target has a pre-image in *every* source -/
  kernel : ∀ s X t r d a rhs, A.delta s X = some t → A.items t ⟨r, d+1, a⟩ → g.rhsOf r = some rhs →
      rhs[d]? = some X ∧ ∃ a', A.items s ⟨r, d, a'⟩
  /-- dot-0 original items are demanded by some item of the same state -/
  closure0 : ∀ s j a rule, A.items s ⟨some j, 0, a⟩ → g.rules[j]? = some rule →
      ∃ r d a' rhs, A.items s ⟨r, d, a'⟩ ∧ g.rhsOf r = some rhs ∧ rhs[d]? = some (.n rule.lhs)
  /-- augmented initial item only in the start state -/
  aug0 : ∀ s a, A.items s ⟨none, 0, a⟩ → s = A.start
  /-- the start state is never a target -/
  noBack : ∀ s X, A.delta s X ≠ some A.start
  transN : ∀ s r d a rhs B, A.items s ⟨r, d, a⟩ → g.rhsOf r = some rhs → rhs[d]? = some (.n B) →
      ∃ t, A.delta s (.n B) = some t
  goto : ∀ s B, A.goto s B = A.delta s (.n B)
  actShift : ∀ s a t, A.action s a = .shift t → ∃ c, a = some c ∧ A.delta s (.t c) = some t
  actReduce : ∀ s a j, A.action s a = .reduce j → ∃ rule a', g.rules[j]? = some rule ∧
      A.items s ⟨some j, rule.rhs.length, a'⟩
  actAccept : ∀ s a, A.action s a = .accept → a = none ∧ ∃ a', A.items s ⟨none, 1, a'⟩

/-- consistent stacks: states (top first), nodes (top first), consumed input -/
inductive Stk (g : Grammar T N) (A : Auto T N) : List Nat → List (Tree T P) → List (Tok T P) → Prop
  | base : Stk g A [A.start] [] []
  | push {s ss t ts X s' u} : Stk g A (s :: ss) ts u → WF g t X → A.delta s X = some s' →
      Stk g A (s' :: s :: ss) (t :: ts) (u ++ t.yield)

theorem Stk.len {g : Grammar T N} {A : Auto T N} {ss ts} {u : List (Tok T P)} (h : Stk g A ss ts u) :
    ss.length = ts.length + 1 := by
  induction h with
  | base => rfl
  | push _ _ _ ih => simp [ih]

/-- an item with dot `d` in the top state pins down the top `d` stack entries -/
theorem Stk.suffix {g : Grammar T N} {A : Auto T N} (hs : Sound g A) :
    ∀ d ss ts (u : List (Tok T P)), Stk g A ss ts u → ∀ top tl, ss = top :: tl → ∀ r a rhs, A.items top ⟨r, d, a⟩ →
      g.rhsOf r = some rhs →
      ∃ s0 tl0 u0 a0, ss.drop d = s0 :: tl0 ∧ A.items s0 ⟨r, 0, a0⟩ ∧ Stk g A (s0 :: tl0) (ts.drop d) u0 ∧
        d ≤ ts.length ∧ WFL g (ts.take d).reverse (rhs.take d) ∧ u = u0 ++ yieldList (ts.take d).reverse := by
  intro d
  induction d with
  | zero =>
    intro ss ts u h top tl hss r a rhs hit _
    subst hss
    exact ⟨top, tl, u, a, rfl, hit, by simpa using h, by simp, by simpa using WFL.nil, by simp [yieldList]⟩
  | succ d ih =>
    intro ss ts u h top tl hss r a rhs hit hrhs
    cases h with
    | base =>
      cases hss
      have := hs.startDot r (d+1) a hit
      omega
    | @push s ss' t ts' X s' u' hstk hwf hd =>
      cases hss
      obtain ⟨hX, a', hit'⟩ := hs.kernel s X top r d a rhs hd hit hrhs
      obtain ⟨s0, tl0, u0, a0, hdrop, hit0, hstk0, hle, hwfl, hu⟩ :=
        ih (s :: ss') ts' u' hstk s ss' rfl r a' rhs hit' hrhs
      have e1 : (List.take (d + 1) (t :: ts')).reverse = (ts'.take d).reverse ++ [t] := by simp
      refine ⟨s0, tl0, u0, a0, by simpa using hdrop, hit0, by simpa using hstk0, by simp; omega, ?_, ?_⟩
      · have e2 : rhs.take (d+1) = rhs.take d ++ [X] := by rw [List.take_add_one, hX]; rfl
        rw [e1, e2]
        exact hwfl.append (.cons hwf .nil)
      · rw [e1, hu, yieldList_append]
        simp [yieldList]

theorem Stk.start_top {g : Grammar T N} {A : Auto T N} (hs : Sound g A) {tl ts} {u : List (Tok T P)}
    (h : Stk g A (A.start :: tl) ts u) : tl = [] ∧ ts = [] ∧ u = [] := by
  cases h with
  | base => exact ⟨rfl, rfl, rfl⟩
  | push _ _ hd => exact absurd hd (hs.noBack _ _)

theorem la_none {l : List (Tok T P)} (h : la l = none) : l = [] := by
  cases l <;> simp_all [la]

theorem la_some {l : List (Tok T P)} {c} (h : la l = some c) : ∃ tok rest, l = tok :: rest ∧ tok.kind = c := by
  cases l with
  | nil => simp [la] at h
  | cons tok rest => exact ⟨tok, rest, rfl, by simpa [la] using h⟩

/-- one step preserves consistency, never panics, and `ok` is sound -/
theorem step_inv {g : Grammar T N} {A : Auto T N} (hs : Sound g A) (c : Cfg T P) (u : List (Tok T P))
    (h : Stk g A c.states c.nodes u) :
    match step g A c with
    | .panic => False
    | .cont c' => ∃ u', Stk g A c'.states c'.nodes u' ∧ u' ++ c'.rest = u ++ c.rest
    | .ok t => WF g t (.n g.start) ∧ u = t.yield ∧ c.rest = []
    | .err => True := by
  obtain ⟨states, nodes, rest⟩ := c
  simp only at h
  have hlen := h.len
  cases states with
  | nil => simp at hlen
  | cons top tl =>
    simp only [step]
    cases hact : A.action top (la rest) with
    | err => simp
    | shift t =>
      obtain ⟨cK, hla, hd⟩ := hs.actShift top _ t hact
      obtain ⟨tok, rest', hr, hk⟩ := la_some hla
      subst hr
      simp only
      refine ⟨u ++ (Tree.leaf tok).yield, .push h (hk ▸ WF.leaf tok) hd, by simp [Tree.yield]⟩
    | accept =>
      obtain ⟨hla, a', hit⟩ := hs.actAccept top _ hact
      have hrest := la_none hla
      obtain ⟨s0, tl0, u0, a0, hdrop, hit0, hstk0, hle, hwfl, hu⟩ :=
        Stk.suffix hs 1 _ _ _ h top tl rfl none a' [.n g.start] hit rfl
      have hs0 := hs.aug0 s0 a0 hit0
      subst hs0
      obtain ⟨_, hts, hu0⟩ := Stk.start_top hs hstk0
      cases nodes with
      | nil => simp at hle
      | cons t ts =>
        simp only
        simp at hts hwfl hu
        subst hts hu0
        cases hwfl with
        | cons h1 _ => exact ⟨h1, by simpa [yieldList] using hu, hrest⟩
    | reduce j =>
      obtain ⟨rule, a', hr, hit⟩ := hs.actReduce top _ j hact
      obtain ⟨s0, tl0, u0, a0, hdrop, hit0, hstk0, hle, hwfl, hu⟩ :=
        Stk.suffix hs rule.rhs.length _ _ _ h top tl rfl (some j) a' rule.rhs hit (rhsOf_some hr)
      obtain ⟨r', d', a'', rhs', hit', hrhs', hget'⟩ := hs.closure0 s0 j a0 rule hit0 hr
      obtain ⟨t, hd⟩ := hs.transN s0 r' d' a'' rhs' rule.lhs hit' hrhs' hget'
      have hgoto : A.goto s0 rule.lhs = some t := by rw [hs.goto]; exact hd
      have hn : ¬ (nodes.length < rule.rhs.length ∨ (top :: tl).length < rule.rhs.length) := by
        simp at hlen ⊢; omega
      simp only [hr, hn, if_false, hdrop, hgoto]
      refine ⟨u0 ++ (Tree.node j (nodes.take rule.rhs.length).reverse).yield, ?_, ?_⟩
      · refine .push hstk0 (WF.node j rule _ hr ?_) hd
        simpa using hwfl
      · simp [Tree.yield, hu]

theorem steps_stk {g : Grammar T N} {A : Auto T N} (hs : Sound g A) {c c' : Cfg T P} (h : Steps g A c c') :
    ∀ u, Stk g A c.states c.nodes u → ∃ u', Stk g A c'.states c'.nodes u' ∧ u' ++ c'.rest = u ++ c.rest := by
  induction h with
  | refl => intro u hu; exact ⟨u, hu, rfl⟩
  | head hstep _ ih =>
    intro u hu
    have := step_inv hs _ u hu
    rw [hstep] at this
    obtain ⟨u1, h1, e1⟩ := this
    obtain ⟨u2, h2, e2⟩ := ih u1 h1
    exact ⟨u2, h2, by rw [e2, e1]⟩

end KikiVerif.LR
#print axioms KikiVerif.LR.step_inv
