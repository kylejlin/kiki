import KikiVerif.LR.Gen
/-! Viable prefixes from inductive core-soundness (for the C03 "no shift past a dead prefix" half) -/
namespace KikiVerif.LR
variable {T N : Type}

inductive Derives (g : Grammar T N) : List (Sym T N) → List (Sym T N) → Prop
  | refl (α) : Derives g α α
  | step {α pre post rule} : Derives g α (pre ++ .n rule.lhs :: post) → rule ∈ g.rules →
      Derives g α (pre ++ rule.rhs ++ post)

theorem Derives.trans {g : Grammar T N} {α β γ : List (Sym T N)} (h1 : Derives g α β) (h2 : Derives g β γ) :
    Derives g α γ := by
  induction h2 with
  | refl => exact h1
  | step _ hr ih => exact .step ih hr

theorem Derives.context {g : Grammar T N} {α β : List (Sym T N)} (p q : List (Sym T N))
    (h : Derives g α β) : Derives g (p ++ α ++ q) (p ++ β ++ q) := by
  induction h with
  | refl => exact .refl _
  | @step pre post rule _ hr ih =>
    have e1 : p ++ (pre ++ Sym.n rule.lhs :: post) ++ q = (p ++ pre) ++ Sym.n rule.lhs :: (post ++ q) := by simp
    have e2 : p ++ (pre ++ rule.rhs ++ post) ++ q = (p ++ pre) ++ rule.rhs ++ (post ++ q) := by simp
    rw [e1] at ih
    rw [e2]
    exact .step ih hr

theorem Derives.rule {g : Grammar T N} {r : Rule T N} (hr : r ∈ g.rules) : Derives g [.n r.lhs] r.rhs := by
  have := Derives.step (g := g) (α := [.n r.lhs]) (pre := []) (post := []) (rule := r) (by simpa using Derives.refl _) hr
  simpa using this

/-- the cores (rule, dot; `none` = the augmented rule) that closure steps generate from the kernel cores `K` -/
inductive CoreReach (g : Grammar T N) (K : Option Nat → Nat → Prop) : Option Nat → Nat → Prop
  | kernel {r d} : K r d → CoreReach g K r d
  | step {r d rhs j rule} : CoreReach g K r d → g.rhsOf r = some rhs → rhs[d]? = some (.n rule.lhs) →
      g.rules[j]? = some rule → CoreReach g K (some j) 0

/-- every core of a state is generated: in the start state from `[S' → ·S]`, in the target of a transition on `X`
from the cores of the source with `X` right of the dot, moved over it -/
structure CoreSound (g : Grammar T N) (A : Auto T N) : Prop where
  start : ∀ r d a, A.items A.start ⟨r, d, a⟩ → CoreReach g (fun r d => r = none ∧ d = 0) r d
  trans : ∀ s X t, A.delta s X = some t → ∀ r d a, A.items t ⟨r, d, a⟩ →
      CoreReach g (fun r d => ∃ d' a' rhs, d = d'+1 ∧ A.items s ⟨r, d', a'⟩ ∧ g.rhsOf r = some rhs ∧
        rhs[d']? = some X) r d

/-- state stack (top first) with the symbols spelled by it (bottom first) -/
inductive StkS (A : Auto T N) : List Nat → List (Sym T N) → Prop
  | base : StkS A [A.start] []
  | push {s ss γ X s'} : StkS A (s :: ss) γ → A.delta s X = some s' → StkS A (s' :: s :: ss) (γ ++ [X])

/-- the symbols `γ` on the stack end in the first `d` symbols of rule `r`, and what precedes them together with the
whole rule begins a sentential form -/
def Viable (g : Grammar T N) (γ : List (Sym T N)) (r : Option Nat) (d : Nat) : Prop :=
  ∃ δ ζ rhs, g.rhsOf r = some rhs ∧ γ = δ ++ rhs.take d ∧ Derives g [.n g.start] (δ ++ rhs ++ ζ)

theorem viable_closure {g : Grammar T N} {γ r d rhs j rule}
    (h : Viable g γ r d) (hr : g.rhsOf r = some rhs) (hget : rhs[d]? = some (.n rule.lhs))
    (hj : g.rules[j]? = some rule) : Viable g γ (some j) 0 := by
  obtain ⟨δ, ζ, rhs', hr', rfl, hder⟩ := h
  cases hr.symm.trans hr'
  refine ⟨δ ++ rhs.take d, rhs.drop (d+1) ++ ζ, rule.rhs, rhsOf_some hj, by simp, ?_⟩
  obtain ⟨hd, hx⟩ := List.getElem?_eq_some_iff.mp hget
  -- split `rhs` at the dot and replace the nonterminal there by the right-hand side of its rule
  have hsplit : δ ++ rhs ++ ζ = (δ ++ rhs.take d) ++ .n rule.lhs :: (rhs.drop (d+1) ++ ζ) := by
    conv => lhs; rw [← List.take_append_drop d rhs, List.drop_eq_getElem_cons hd, hx]
    simp
  have := Derives.step (hsplit ▸ hder) (List.mem_of_getElem? hj)
  simpa using this

theorem viable_of_coreReach {g : Grammar T N} {K γ} (hK : ∀ r d, K r d → Viable g γ r d) :
    ∀ r d, CoreReach g K r d → Viable g γ r d := by
  intro r d h
  induction h with
  | kernel hk => exact hK _ _ hk
  | step _ hr hget hj ih => exact viable_closure ih hr hget hj

theorem viable {g : Grammar T N} {A : Auto T N} (hcs : CoreSound g A) :
    ∀ ss γ, StkS A ss γ → ∀ top tl, ss = top :: tl → ∀ r d a, A.items top ⟨r, d, a⟩ → Viable g γ r d := by
  intro ss γ h
  induction h with
  | base =>
    intro top tl hss r d a hit
    cases hss
    refine viable_of_coreReach ?_ r d (hcs.start r d a hit)
    rintro r d ⟨rfl, rfl⟩
    exact ⟨[], [], [.n g.start], rfl, by simp, by simpa using Derives.refl _⟩
  | @push s ss γ X s' hstk hd ih =>
    intro top tl hss r d a hit
    cases hss
    refine viable_of_coreReach ?_ r d (hcs.trans s X _ hd r d a hit)
    rintro r d ⟨d', a', rhs, rfl, hit', hr, hget⟩
    obtain ⟨δ, ζ, rhs', hr', hγ, hder⟩ := ih s ss rfl _ d' a' hit'
    cases hr.symm.trans hr'
    refine ⟨δ, ζ, rhs, hr, ?_, hder⟩
    rw [hγ, List.take_add_one, hget]; simp

end KikiVerif.LR
#print axioms KikiVerif.LR.viable
