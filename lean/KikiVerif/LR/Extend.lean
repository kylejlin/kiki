import KikiVerif.LR.Snd
import KikiVerif.LR.Via
import KikiVerif.LR.Early
/-!
The consumed part of the input is always a prefix of some sentence (when every nonterminal is productive),
and together with `LR/Early.lean`: the error is reported at the first token that makes the prefix dead.
-/
namespace KikiVerif.LR
variable {T N P : Type}

theorem WFL.split {g : Grammar T N} : ∀ (a : List (Sym T N)) {ts : List (Tree T P)} {b}, WFL g ts (a ++ b) →
    ∃ t1 t2, ts = t1 ++ t2 ∧ WFL g t1 a ∧ WFL g t2 b := by
  intro a
  induction a with
  | nil => intro ts b h; exact ⟨[], ts, rfl, .nil, by simpa using h⟩
  | cons x xs ih =>
    intro ts b h
    cases h with
    | cons hc hcs =>
      obtain ⟨t1, t2, rfl, h1, h2⟩ := ih hcs
      exact ⟨_ :: t1, t2, rfl, .cons hc h1, h2⟩

theorem Derives.fold {g : Grammar T N} {α β : List (Sym T N)} (h : Derives g α β) :
    ∀ ts : List (Tree T P), WFL g ts β → ∃ ts', WFL g ts' α ∧ yieldList ts' = yieldList ts := by
  induction h with
  | refl => intro ts h; exact ⟨ts, h, rfl⟩
  | @step pre post rule _ hmem ih =>
    intro ts h
    rw [List.append_assoc] at h
    obtain ⟨t1, t23, rfl, h1, h23⟩ := WFL.split pre h
    obtain ⟨t2, t3, rfl, h2, h3⟩ := WFL.split rule.rhs h23
    obtain ⟨j, hj'⟩ := List.getElem?_of_mem hmem
    obtain ⟨ts', hw, hy⟩ := ih (t1 ++ Tree.node j t2 :: t3) (WFL.append h1 (.cons (.node j rule t2 hj' h2) h3))
    refine ⟨ts', hw, ?_⟩
    rw [hy]
    simp [yieldList_append, yieldList, Tree.yield]

/-- the start symbol and every nonterminal on a right-hand side (a superset of those that occur in a sentential form) -/
def Occurs (g : Grammar T N) (B : N) : Prop := B = g.start ∨ ∃ rule ∈ g.rules, Sym.n B ∈ rule.rhs

/-- every nonterminal with `Occurs` derives at least one token sequence -/
def Productive (g : Grammar T N) (P : Type) : Prop := ∀ B, Occurs g B → ∃ t : Tree T P, WF g t (.n B)

theorem Derives.occurs {g : Grammar T N} {β : List (Sym T N)} (h : Derives g [.n g.start] β) :
    ∀ B, Sym.n B ∈ β → Occurs g B := by
  generalize hα : [Sym.n g.start] = α at h
  induction h with
  | refl => subst hα; exact fun B hB => .inl (Sym.n.inj (List.mem_singleton.mp hB))
  | @step pre post rule _ hmem ih =>
    intro B hB
    simp only [List.mem_append] at hB
    rcases hB with (hB | hB) | hB
    · exact ih B (by simp [hB])
    · exact Or.inr ⟨rule, hmem, hB⟩
    · exact ih B (by simp [hB])

theorem trees_of_forall [Inhabited P] {g : Grammar T N} : ∀ β : List (Sym T N),
    (∀ B, Sym.n B ∈ β → ∃ t : Tree T P, WF g t (.n B)) → ∃ ts : List (Tree T P), WFL g ts β := by
  intro β
  induction β with
  | nil => intro _; exact ⟨[], .nil⟩
  | cons X β ih =>
    intro h
    obtain ⟨ts, hts⟩ := ih (fun B hB => h B (List.mem_cons_of_mem _ hB))
    cases X with
    | t a => exact ⟨.leaf ⟨a, default⟩ :: ts, .cons (.leaf ⟨a, default⟩) hts⟩
    | n B =>
      obtain ⟨t, ht⟩ := h B List.mem_cons_self
      exact ⟨t :: ts, .cons ht hts⟩

theorem Stk.spell {g : Grammar T N} {A : Auto T N} {ss ts} {u : List (Tok T P)} (h : Stk g A ss ts u) :
    ∃ γ, StkS A ss γ ∧ WFL g ts.reverse γ ∧ yieldList ts.reverse = u := by
  induction h with
  | base => exact ⟨[], .base, .nil, rfl⟩
  | @push s ss t ts X s' u _ hwf hd ih =>
    obtain ⟨γ, h1, h2, h3⟩ := ih
    refine ⟨γ ++ [X], .push h1 hd, ?_, ?_⟩
    · rw [List.reverse_cons]; exact h2.append (.cons hwf .nil)
    · rw [List.reverse_cons, yieldList_append, h3]; simp [yieldList]

/-- every transition target, hence every state on a stack above the start state, has at least one item -/
def NonEmpty (A : Auto T N) : Prop := ∀ s X t, A.delta s X = some t → ∃ it, A.items t it

/-- trees for the rest of the rule and of the sentential form exist since every nonterminal is productive, and the
derivation folds back over all of them -/
theorem Viable.extends [Inhabited P] {g : Grammar T N} (hp : Productive g P) {γ r d} (h : Viable g γ r d)
    {ts : List (Tree T P)} (hw : WFL g ts γ) :
    ∃ suf t, WF g t (.n g.start) ∧ t.yield = yieldList ts ++ suf := by
  obtain ⟨δ, ζ, rhs, hr, rfl, hder⟩ := h
  obtain ⟨more, hmore⟩ := trees_of_forall (rhs.drop d ++ ζ) fun B hB => hp B <| hder.occurs B <| by
    rcases List.mem_append.mp hB with hB | hB
    · simp [List.mem_of_mem_drop hB]
    · simp [hB]
  have hall : WFL g (ts ++ more) (δ ++ rhs ++ ζ) := by
    have := hw.append hmore
    rwa [List.append_assoc δ, ← List.append_assoc (rhs.take d), List.take_append_drop,
      ← List.append_assoc] at this
  obtain ⟨ts', hw', hy'⟩ := hder.fold _ hall
  cases hw' with
  | cons ht hnil =>
    cases hnil
    exact ⟨yieldList more, _, ht, by simpa [yieldList, yieldList_append] using hy'⟩

/-- **the consumed input is a viable prefix**: whatever configuration the run reaches, the tokens consumed so
far can be continued to a sentence -/
theorem consumed_extends [Inhabited P] {g : Grammar T N} {A : Auto T N} (hs : Sound g A)
    (hc : Complete (P := P) g A) (hcs : CoreSound g A) (hne : NonEmpty A) (hp : Productive g P)
    {w : List (Tok T P)} {c : Cfg T P} (hrun : Steps g A ⟨[A.start], [], w⟩ c) :
    ∃ pre, w = pre ++ c.rest ∧ ∃ suf t, WF g t (.n g.start) ∧ t.yield = pre ++ suf := by
  obtain ⟨u, hstk, hu⟩ := steps_stk hs hrun [] .base
  obtain ⟨γ, hS, hwfl, hy⟩ := hstk.spell
  have ⟨top, tl, hss, ⟨r, d, a⟩, hit⟩ : ∃ top tl, c.states = top :: tl ∧ ∃ it, A.items top it := by
    generalize c.states = ss at hS
    cases hS with
    | base => exact ⟨A.start, [], rfl, _, hc.start⟩
    | push _ hd => exact ⟨_, _, rfl, hne _ _ _ hd⟩
  exact ⟨u, by simpa using hu.symm, hy ▸ (viable hcs _ _ hS top tl hss r d a hit).extends hp hwfl⟩

/-- **C03, generic form.**  When the run stops with an error:
* the consumed tokens `pre` are a prefix of a sentence (so is every shorter prefix);
* if a token `a` is the lookahead (`Err(Some(a))`), no sentence starts with `pre ++ [a]`: `a` is the first
  offending token, and the run did not depend on anything after `a`;
* if the input is exhausted (`Err(None)`), the input is not a sentence (but a proper prefix of one). -/
theorem first_offending [Inhabited P] {g : Grammar T N} {A : Auto T N} (hs : Sound g A)
    (hc : Complete (P := P) g A) (hcs : CoreSound g A) (hne : NonEmpty A) (hp : Productive g P)
    {w : List (Tok T P)} {c : Cfg T P} (hrun : Steps g A ⟨[A.start], [], w⟩ c) (herr : step g A c = .err) :
    ∃ pre, w = pre ++ c.rest ∧
      (∃ suf t, WF g t (.n g.start) ∧ t.yield = pre ++ suf) ∧
      (∀ a r, c.rest = a :: r → ∀ r' t, WF g t (.n g.start) → t.yield ≠ pre ++ a :: r') ∧
      (c.rest = [] → ∀ t, WF g t (.n g.start) → t.yield ≠ w) := by
  obtain ⟨pre, hw, hext⟩ := consumed_extends hs hc hcs hne hp hrun
  refine ⟨pre, hw, hext, ?_, ?_⟩
  · intro a r hrest r' t ht
    rw [hrest] at hw
    subst hw
    exact no_early_error hc hrun hrest herr r' t ht
  · intro _ t ht
    exact error_not_sentence hc hrun herr t ht

end KikiVerif.LR
