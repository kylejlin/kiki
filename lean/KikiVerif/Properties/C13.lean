/-
C13 — terminal payload types are reproduced faithfully everywhere they are used.
(the terminal enum, the Node enum and the `try_into_*` methods all carry the validated
type string of *that* terminal: `C13_use_sites`; so do the fields: `C13_field_sites`; the
type string re-lexes to the declared tokens: `C13_type_tokens`)
-/
import KikiVerif.Proofs.Emit
import KikiVerif.Properties.C09
import KikiVerif.Model.Validate
import KikiVerif.Spec.Unparse
import KikiVerif.Properties.C06

namespace KikiVerif.C13
open KikiVerif KikiVerif.Emit

theorem C13_use_sites {f : VFile.File} {enc : Encode.Enc} {t : Table.Table} {sha : Str} {m : Module}
    (h : moduleOf f enc t sha = some m) :
    m.tenumVariants = f.tenum.variants.map (fun v => (v.name, v.ty)) ∧
    m.methods.map (fun x => (x.1, x.2.2)) = f.tenum.variants.map (fun v => (v.name, v.ty)) := by
  obtain ⟨_, _, _, h4, _, _, h7, _, _⟩ := moduleOf_spec h
  exact ⟨h4, h7 ▸ (List.map_map ..).trans (List.map_zipIdx_fst (fun v : VFile.TermVariant => (v.name, v.ty)) ..)⟩

/-- **C13, CST side**: path segments and generic arguments reach the AST in the order written, at every
nesting depth (`unType` prints them in list order; the printed sequence equals the input tokens) -/
theorem C13_type_order (toks : List Token) (fuel : Nat) (t : FrontParse.CTree)
    (h : FrontParse.parse toks fuel = some (.ok t)) :
    ∃ ast, FrontParse.cstToAst t = some ast ∧ Spec.unFile ast = toks.map Spec.erase :=
  C09.C09_flatten toks fuel t h

/-! ### the rendered type string is the user's tokens, one after the other -/

/-- the text of a token that can occur in a type (`, ` after a comma; everything else verbatim, no spaces) -/
def tkText : Spec.Tk → Str
  | .ident n => n
  | .dcolon => "::".toList
  | .comma => ", ".toList
  | .langle => ['<']
  | .rangle => ['>']
  | .lparen => ['(']
  | .rparen => [')']
  | _ => []

theorem path_tokens : ∀ p : List Ast.Ident, (Spec.unPath p).flatMap tkText = Validate.pathToString p := by
  intro p
  unfold Validate.pathToString
  induction p with
  | nil => rfl
  | cons i rest ih =>
    cases rest with
    | nil => simp [Spec.unPath, tkText, Text.join]
    | cons j rest' =>
      simp only [Spec.unPath, List.flatMap_cons, tkText, List.map_cons, Text.join] at ih ⊢
      rw [ih]
      simp [List.append_assoc]

mutual
theorem type_tokens : ∀ ty : Ast.Ty, (Spec.unType ty).flatMap tkText = Validate.typeToString ty
  | .unit => by simp [Spec.unType, tkText, Validate.typeToString]
  | .path p => by simp only [Spec.unType, Validate.typeToString]; exact path_tokens p
  | .complex callee args => by
    simp only [Spec.unType, Validate.typeToString, List.flatMap_append, path_tokens, types_tokens args]
    simp [tkText]
theorem types_tokens : ∀ tys : List Ast.Ty,
    (Spec.unTypes tys).flatMap tkText = Text.join ", ".toList (Validate.typesToStrings tys)
  | [] => by simp [Spec.unTypes, Validate.typesToStrings, Text.join]
  | [t] => by simp [Spec.unTypes, Validate.typesToStrings, Text.join, type_tokens t]
  | t :: u :: rest => by
    have ih := types_tokens (u :: rest)
    simp only [Spec.unTypes, Validate.typesToStrings, Text.join, List.flatMap_append, type_tokens t] at ih ⊢
    rw [ih]
    simp [tkText, List.append_assoc]
end

/-- **C13, rendering**: the type string stored for a terminal (and emitted at every use site, `C13_use_sites`)
is the concatenation of the tokens of the payload type as written — every path segment, `::`, `<`, `>`, `(`, `)`
verbatim and `, ` for each comma — at any nesting depth.  With `C13_type_order` (the AST's tokens are the
user's tokens) the emitted type is the user's type token for token. -/
theorem C13_type_tokens (ty : Ast.Ty) : Validate.typeToString ty = (Spec.unType ty).flatMap tkText :=
  (type_tokens ty).symm

/-- non-trivial instance: `a::B<(), C<d::E, F>>` -/
example :
    let i (s : String) : Ast.Ident := ⟨s.toList, 0⟩
    Validate.typeToString (.complex [i "a", i "B"] [.unit, .complex [i "C"] [.path [i "d", i "E"], .path [i "F"]]])
      = "a::B<(), C<d::E, F>>".toList := by
  decide

/-- **C13, field use sites**: in every emitted struct and enum variant, the type written for a used field whose
symbol is a terminal `$T` is the payload type string stored for `T` in the validated terminal enum — the string
`C13_type_tokens` shows to be the user's tokens verbatim (`C06_fields`, read for terminals: `SymTy`) -/
theorem C13_field_sites {f : VFile.File} {enc : Encode.Enc} {t : Table.Table} {sha : Str} {m : Module}
    (h : moduleOf f enc t sha = some m) (k : Nat) (n : VFile.Nonterminal) (d : TypeDef)
    (hn : f.nonterminals[k]? = some n) (hd : m.types[k]? = some d) : C06.DefMirrors f.tenum n d :=
  C06.C06_fields h k n d hn hd

/-- `get_type` answers with the payload type declared for that terminal name -/
theorem C13_getType_declared (te : VFile.TermEnum) (name ty : Str) (h : te.getType name = some ty) :
    ∃ v ∈ te.variants, v.name = name ∧ v.ty = ty := by
  unfold VFile.TermEnum.getType at h
  simp only [Option.map_eq_some_iff] at h
  obtain ⟨v, hv, rfl⟩ := h
  exact ⟨v, List.mem_of_find?_eq_some hv, by simpa using List.find?_some hv, rfl⟩

end KikiVerif.C13

#print axioms KikiVerif.C13.C13_type_tokens
#print axioms KikiVerif.C13.C13_use_sites
#print axioms KikiVerif.C13.C13_type_order
#print axioms KikiVerif.C13.C13_field_sites
#print axioms KikiVerif.C13.C13_getType_declared
