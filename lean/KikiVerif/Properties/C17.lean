/-
C17 — emitted tables are the canonical LALR(1) tables of the grammar.

For every validated file (`Proofs/Generator`, `Proofs/TableCells`; no per-grammar check involved):
  * `C17_items_exact`  — the item sets of the generated automaton, lookaheads included, are exactly the least
    fixed point of the LALR(1) propagation rules over its transition graph (`Machine.Deriv`: the augmented
    initial item with end-of-input in the start state; `[B → ·γ, b]` for every `b ∈ FIRST(β a)` in the state of
    `[A → α·Bβ, a]`; the dot moved along transitions, the contributions of all predecessor states united);
  * `C17_one_state_per_core` — no two states have the same set of cores; transitions are functional;
  * `C17_cells` — an ACTION cell is non-error iff an item of its state demands it there (reduce `A → α` exactly on
    the lookaheads of `[A → α·]`, accept on end of input for `[S' → S·]`, shift to the transition's target on the
    terminal right of a dot), GOTO cells are exactly the nonterminal transitions, everything else is `Err`/`None`.
  * `C17_is_lalr1` — the textbook definition itself: the generated automaton is the canonical LR(1) collection
    (`Machine.CanonState`: closure of `[S' → ·S, $]`; closures of the moved items of a canonical state) merged by
    core: every canonical state lies inside a machine state with the same cores (no other state has those cores:
    `C17_one_state_per_core`); every item of a machine state lies in a canonical state with that state's cores; every machine state is the merge of at least
    one canonical state.
What relates `Deriv` to the textbook definition is that the FIRST map is *exact*: it is proved closed under the
FIRST equations (`Proofs/First`, which gives completeness w.r.t. derivation trees: `Valid.first_complete`)
and sound (`Proofs/FirstSound`: a terminal in `FIRST(B)` begins a sentential form derived from `B`, a nullable
mark means `B ⇒* ε`).  The equivalence of this propagation-rule characterisation with the
canonical-LR(1)-merged-by-core definition is `Proofs/Canonical.lalr_exact` (`C17_is_lalr1`); it is additionally
compared with an independent construction on every generated grammar (DESIGN.md §6.3).
-/
import KikiVerif.Model.Table
import KikiVerif.Proofs.Generator
import KikiVerif.Proofs.TableCells
import KikiVerif.Proofs.Encode
import KikiVerif.Proofs.FirstSound
import KikiVerif.Proofs.Canonical
import KikiVerif.Proofs.LalrConflict

namespace KikiVerif.C17
open KikiVerif.Table KikiVerif.Machine KikiVerif.LR

/-- `get_empty_table`: every action cell is `Err`, every goto cell `None` -/
theorem C17_empty_table (c : Ctx) (m : Machine) (s col : Nat) :
    (emptyTable c m).action s col = .err ∧ (emptyTable c m).goto s col = none :=
  ⟨emptyTable_action c m s col, emptyTable_goto c m s col⟩

theorem C17_items_exact (vf : VFile.File) (enc : Encode.Enc) (m : Machine) (fuel : Nat)
    (he : Encode.encode vf = some enc) (hm : machineOf enc.ctx fuel = some (some m)) :
    ∃ fm, firstSets enc.ctx fuel = some (some fm) ∧ Valid.firstClosedB enc.ctx.g (toTbl fm) = true ∧
      FmSound enc.ctx.g fm ∧
      ∀ s y, (s < m.states.length ∧ y ∈ m.states.getD s []) ↔ Deriv enc.ctx fm m.start m.transitions s y := by
  obtain ⟨fm, hfm, mok⟩ := machineOf_ok (Encode.encode_ok he).terms hm
  exact ⟨fm, hfm, (firstSets_closed hfm).1, firstSets_sound hfm, items_exact mok⟩

theorem C17_one_state_per_core (vf : VFile.File) (enc : Encode.Enc) (m : Machine) (fuel : Nat)
    (he : Encode.encode vf = some enc) (hm : machineOf enc.ctx fuel = some (some m)) :
    (∀ s1 s2, s1 < m.states.length → s2 < m.states.length →
      SameCores (m.states.getD s1 []) (m.states.getD s2 []) → s1 = s2) ∧
    (∀ t1 ∈ m.transitions, ∀ t2 ∈ m.transitions, t1.frm = t2.frm → t1.sym = t2.sym → t1.to = t2.to) := by
  obtain ⟨fm, _, mok⟩ := machineOf_ok (Encode.encode_ok he).terms hm
  exact ⟨mok.distinct, mok.func⟩

/-- **C17, the definition of the LALR(1) automaton**: canonical LR(1) collection merged by core -/
theorem C17_is_lalr1 (vf : VFile.File) (enc : Encode.Enc) (m : Machine) (fuel : Nat)
    (he : Encode.encode vf = some enc) (hm : machineOf enc.ctx fuel = some (some m)) :
    ∃ fm, firstSets enc.ctx fuel = some (some fm) ∧
      (∀ I, CanonState enc.ctx fm I → ∃ s, s < m.states.length ∧ SameCoresPS I (m.states.getD s []) ∧
          ∀ y, I y → y ∈ m.states.getD s []) ∧
      (∀ s, s < m.states.length → ∀ y ∈ m.states.getD s [],
          ∃ I, CanonState enc.ctx fm I ∧ SameCoresPS I (m.states.getD s []) ∧ I y) ∧
      (∀ s, s < m.states.length → ∃ I, CanonState enc.ctx fm I ∧ SameCoresPS I (m.states.getD s [])) := by
  have ok := Encode.encode_ok he
  obtain ⟨fm, hfm, mok⟩ := machineOf_ok ok.terms hm
  exact ⟨fm, hfm, lalr_exact ok (firstSets_closed hfm).2.1 mok⟩

theorem C17_cells (c : Ctx) (m : Machine) (t : Table) (h : machineToTable c m = .ok t) :
    (∀ s col, col ≤ c.nT → (t.action s col ≠ .err ↔
      ∃ st it, m.states[s]? = some st ∧ it ∈ st ∧ Table.demand c m s it = some (col, t.action s col))) ∧
    (∀ s b to, b < c.nN → (t.goto s b = some to ↔ (⟨s, to, .n b⟩ : Transition) ∈ m.transitions)) := by
  have cells := machineToTable_cells h
  constructor
  · intro s col hcol
    constructor
    · exact cells.justified s col hcol
    · rintro ⟨st, it, hst, hit, hd⟩ e
      -- a demand is never the error action
      rw [e] at hd
      exact (want_kind (demand_want hd).1).1 rfl
  · intro s b to hb
    exact ⟨cells.gotoJust s b to hb, fun htr => cells.gotoOf _ htr b rfl⟩

/-- **C17, the cells in the textbook's terms, every validated file**: the *kind* of every ACTION cell (shift /
reduce by rule `r` / accept / error — everything but the destination of a shift, which is a state number and is
determined by `C17_cells` + `C17_is_lalr1` up to renumbering) is read off the canonical LR(1) collection alone: the cell
of state `s` on column `col` has the non-error kind `w` iff some canonical LR(1) state with the cores of `s` holds
an item that wants `w` on `col` (`Machine.want`: reduce `A → α` exactly on the lookaheads of `[A → α·, a]` in the
canonical states merged into `s`, accept on end of input for `[S' → S·]`, shift on the terminal right of a dot);
hence the error action everywhere else. -/
theorem C17_cells_lalr1 (vf : VFile.File) (enc : Encode.Enc) (m : Machine) (fuel : Nat)
    (he : Encode.encode vf = some enc) (hm : machineOf enc.ctx fuel = some (some m))
    (t : Table) (ht : machineToTable enc.ctx m = .ok t) :
    ∃ fm, firstSets enc.ctx fuel = some (some fm) ∧
      ∀ s, s < m.states.length → ∀ col, col ≤ enc.ctx.nT → ∀ w, w ≠ Want.err →
        (kindOf (t.action s col) = w ↔
          ∃ (I : Item → Prop) (y : Item), CanonState enc.ctx fm I ∧ SameCoresPS I (m.states.getD s []) ∧ I y ∧
            want enc.ctx y = some (col, w)) := by
  have ok := Encode.encode_ok he
  obtain ⟨fm, hfm, mok⟩ := machineOf_ok ok.terms hm
  have hlen := (firstSets_closed hfm).2.1
  have cells := machineToTable_cells ht
  refine ⟨fm, hfm, ?_⟩
  intro s hs col hcol w hw
  have hst := List.getElem?_eq_some_getD hs ([] : Machine.State)
  constructor
  · intro hk
    have hne : t.action s col ≠ .err := by
      intro e; rw [e] at hk; exact hw hk.symm
    obtain ⟨st, it, hst', hit, hd⟩ := cells.justified s col hcol hne
    rw [hst] at hst'; cases hst'
    obtain ⟨I, hI, hsc, hy⟩ := machine_in_canon ok hlen mok (mok.just s hs it hit)
    exact ⟨I, it, hI, hsc, hy, by rw [← hk]; exact (demand_want hd).1⟩
  · rintro ⟨I, y, hI, hsc, hy, hwant⟩
    have hin := canon_sub ok hlen mok hI hs hsc y hy
    obtain ⟨a, hd, hk⟩ := want_demand mok hs hin hwant
    rw [cells.demand s _ hst y hin col a hd]
    exact hk

/-- **C17, shift and goto entries = the canonical goto function, every validated file**: (1) along every transition
`s --X--> t'` of the generated automaton (by `C17_cells` these are exactly the shift destinations and the GOTO
cells), the canonical goto `closure(moved(I, X))` of any item set `I` with the cores of `s` — in particular of every
canonical LR(1) state merged into `s` — has the cores of `t'`; (2) wherever a canonical state merged into `s` has a
symbol `X` right of a dot, the automaton has a transition from `s` on `X`. -/
theorem C17_transitions_lalr1 (vf : VFile.File) (enc : Encode.Enc) (m : Machine) (fuel : Nat)
    (he : Encode.encode vf = some enc) (hm : machineOf enc.ctx fuel = some (some m)) :
    ∃ fm, firstSets enc.ctx fuel = some (some fm) ∧
      (∀ tr ∈ m.transitions, ∀ I : Item → Prop, SameCoresPS I (m.states.getD tr.frm []) →
        SameCoresPS (PClos enc.ctx fm (Moved enc.ctx I tr.sym)) (m.states.getD tr.to [])) ∧
      (∀ s, s < m.states.length → ∀ I : Item → Prop, CanonState enc.ctx fm I → SameCoresPS I (m.states.getD s []) →
        ∀ x X, I x → symRightOfDot enc.ctx x = some X → ∃ t', (⟨s, t', X⟩ : Transition) ∈ m.transitions) := by
  have ok := Encode.encode_ok he
  obtain ⟨fm, hfm, mok⟩ := machineOf_ok ok.terms hm
  have hlen := (firstSets_closed hfm).2.1
  exact ⟨fm, hfm, fun tr htr I hsc => transition_canon ok hlen mok htr hsc,
    fun s hs I _ hsc x X hx hsym => canon_transition mok hs hsc hx hsym⟩

end KikiVerif.C17

#print axioms KikiVerif.C17.C17_items_exact
#print axioms KikiVerif.C17.C17_one_state_per_core
#print axioms KikiVerif.C17.C17_is_lalr1
#print axioms KikiVerif.C17.C17_cells
#print axioms KikiVerif.C17.C17_empty_table
#print axioms KikiVerif.C17.C17_cells_lalr1
#print axioms KikiVerif.C17.C17_transitions_lalr1
