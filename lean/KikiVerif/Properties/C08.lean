/-
C08 — source text is tokenised exactly per the documented lexical rules.
`Spec/Lex.lean` is the statement of the rules (`scan`); the correspondence run
compares the implementation with `scan` on every case, and the model with both.
`C08_tokenize_eq_spec` proves, for every source text, that the character state
machine of `tokenize.rs` (model `Tokenize.tokenize`, index bookkeeping and
source slices included) computes exactly `scan` — tokens with kinds, payloads
and byte positions, or the same `Lex(index, char?)`.
-/
import KikiVerif.Spec.Lex
import KikiVerif.Proofs.Tokenize
import KikiVerif.Proofs.Positions

namespace KikiVerif.C08
open KikiVerif KikiVerif.Spec KikiVerif.Text

/-- the specification scanner returns tokens or a lexical error, nothing else -/
theorem C08_scan_total : ∀ (n : Nat) (cs : Str) (i : Nat), cs.length ≤ n →
    (∃ ts, scanFrom cs i = .ok ts) ∨ (∃ j c, scanFrom cs i = .err (.lex j c)) := by
  intro n cs i h
  clear h n
  induction cs, i using scan_induction with
  | done i => exact .inl ⟨[], scanFrom_done rfl⟩
  | bad post i j c hl => exact .inr ⟨j, c, scanFrom_bad hl.eq⟩
  | skip w post i k hl ih => rw [scanFrom_lex hl]; exact ih
  | emit w post i t k hl ih =>
    rw [scanFrom_lex hl]
    rcases ih with ⟨ts, h1⟩ | ⟨j, c, h1⟩
    · exact .inl ⟨t :: ts, by rw [h1]⟩
    · exact .inr ⟨j, c, by rw [h1]⟩

/-- maximal munch: two adjacent colons are always one `::` token -/
theorem C08_double_colon (r : Str) (i : Nat) :
    scanFrom (':' :: ':' :: r) i =
      match scanFrom r (i + 2) with
      | .ok ts => .ok (.dcolon i :: ts)
      | e => e :=
  scanFrom_lex (.dcolon r i)

/-- **C08**: for every source text the tokenizer returns exactly what the documented rules prescribe -/
theorem C08_tokenize_eq_spec (src : Str) : Tokenize.tokenize src = scan src :=
  Tokenize.tokenize_eq_scan src

/-- hence the tokenizer never panics (none of its four slice sites can fail): it returns tokens or `Lex` -/
theorem C08_tokenize_total (src : Str) :
    (∃ ts, Tokenize.tokenize src = .ok ts) ∨ (∃ j c, Tokenize.tokenize src = .err (.lex j c)) := by
  rw [C08_tokenize_eq_spec]
  exact C08_scan_total src.length src 0 (Nat.le_refl _)

/-- **C08, byte positions**: every token `tokenize` returns sits in the source exactly where it says — slicing the
source from the token's start offset over the byte length of its text gives back its text (for a terminal
identifier the text is `$` followed by the name and the start is `dollarless_position - 1 ≥ 0`) -/
theorem C08_positions (src : Str) (ts : List Token) (h : Tokenize.tokenize src = .ok ts) :
    ∀ t ∈ ts, Text.sliceBytes src (Spec.tokStart t) (Spec.tokStart t + Text.blen (Spec.tokText t)) = some (Spec.tokText t) ∧
      Spec.posOk t :=
  Spec.tokenize_positions src ts h

end KikiVerif.C08

#print axioms KikiVerif.C08.C08_scan_total
#print axioms KikiVerif.C08.C08_double_colon
#print axioms KikiVerif.C08.C08_tokenize_eq_spec
#print axioms KikiVerif.C08.C08_tokenize_total
#print axioms KikiVerif.C08.C08_positions
