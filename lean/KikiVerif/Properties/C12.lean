/-
C12 — outer attributes are reproduced verbatim on the matching emitted type.
(the emitted structure carries, for the terminal enum and for every
nonterminal, exactly the declaration's attribute texts in order; `render` prints
them one per line immediately before the item — `typeDefSrc`, `attrsSrc`)
-/
import KikiVerif.Proofs.Emit
import KikiVerif.Properties.C08
import KikiVerif.Properties.C09

namespace KikiVerif.C12
open KikiVerif KikiVerif.Emit

def TypeDef.attrs : TypeDef → List Str
  | .struct a _ _ => a
  | .enum a _ _ => a

def nontermAttrs : VFile.Nonterminal → List Str
  | .struct s => s.attrs.map (·.src)
  | .enum e => e.attrs.map (·.src)

theorem typeDefOf_attrs (te : VFile.TermEnum) (n : VFile.Nonterminal) (d : TypeDef)
    (h : typeDefOf te n = some d) : TypeDef.attrs d = nontermAttrs n := by
  cases n <;> obtain ⟨b, _, rfl⟩ := Option.map_eq_some_iff.mp h <;> rfl

/-- every emitted type item carries exactly its declaration's attributes, in order -/
theorem C12_emit {f : VFile.File} {enc : Encode.Enc} {t : Table.Table} {sha : Str} {m : Module}
    (h : moduleOf f enc t sha = some m) :
    m.tenumAttrs = f.tenum.attrs.map (·.src) ∧
    m.types.map TypeDef.attrs = f.nonterminals.map nontermAttrs := by
  obtain ⟨_, h2, _, _, _, _, _, h8, _⟩ := moduleOf_spec h
  exact ⟨h2, List.map_of_mapM_eq_some h8 fun n _ d hd => typeDefOf_attrs _ n d hd⟩

/-- **C12, token**: the attribute token is exactly what the scanner specification delimits — `#[` followed by
the text up to the bracket that closes the initial `[` (bracket *stack*, any characters except newline) —
because the tokenizer equals that specification on every source text -/
theorem C12_token (src : Str) : Tokenize.tokenize src = Spec.scan src := C08.C08_tokenize_eq_spec src

/-- **C12, order**: the attributes of every declaration reach the AST in source order (`unFile` prints them, in
list order, in front of their declaration; the printed sequence equals the input tokens) -/
theorem C12_order (toks : List Token) (fuel : Nat) (t : FrontParse.CTree)
    (h : FrontParse.parse toks fuel = some (.ok t)) :
    ∃ ast, FrontParse.cstToAst t = some ast ∧ Spec.unFile ast = toks.map Spec.erase :=
  C09.C09_flatten toks fuel t h

end KikiVerif.C12

#print axioms KikiVerif.C12.C12_emit
#print axioms KikiVerif.C12.C12_token
#print axioms KikiVerif.C12.C12_order
