/-
C04 — a parser is emitted exactly for the LALR(1) grammars.
(`set_action` accepts a repeated identical action and nothing else: `C04_setAction_*`; the table
stage: `C04_ok_conflict_free`, `C04_conflict_genuine`; the whole property: `C04_emitted_iff_lalr1`)
-/
import KikiVerif.Model.Table
import KikiVerif.Proofs.Table
import KikiVerif.Proofs.NoPanic
import KikiVerif.Proofs.Encode
import KikiVerif.Proofs.FirstSound
import KikiVerif.Proofs.LalrConflict
import KikiVerif.Proofs.Universal
import KikiVerif.Properties.C02

namespace KikiVerif.C04
open KikiVerif.Table KikiVerif.Machine KikiVerif.LR

/-- a second demand for a filled cell is accepted iff it is the same action -/
theorem C04_setAction_ok_iff (tb : TB) (state col : Nat) (it e : Item) (a ea : Action)
    (hl : tb.actions.lookup (state, col) = some (e, ea)) :
    (∃ tb', setAction tb state col it a = .ok tb') ↔ ea = a := by
  unfold setAction
  rw [hl]
  simp only
  split
  · rename_i h; exact ⟨fun _ => h, fun _ => ⟨tb, rfl⟩⟩
  · rename_i h
    constructor
    · rintro ⟨_, h'⟩; cases h'
    · intro h'; exact absurd h' h

/-- an empty cell is always filled -/
theorem C04_setAction_fresh (tb : TB) (state col : Nat) (it : Item) (a : Action)
    (hl : tb.actions.lookup (state, col) = none) :
    setAction tb state col it a = .ok { tb with actions := tb.actions ++ [((state, col), (it, a))] } := by
  unfold setAction; rw [hl]

/-- **C04 at the level of the automaton**: `machine_to_table` succeeds only if no state of the automaton it is
given has two items demanding different actions on one lookahead column; and it reports a conflict only if
some state has (`C11_payload`).  That the automaton *is* the LALR(1) automaton of the grammar (DESIGN.md §6.3)
is what `C04_emitted_iff_lalr1` below adds. -/
theorem C04_ok_conflict_free (c : Ctx) (m : Machine) (t : Table) (h : machineToTable c m = .ok t) :
    ¬ ∃ s e n, Genuine c m s e n :=
  ok_conflict_free c m t h

theorem C04_conflict_genuine (c : Ctx) (m : Machine) (s : Nat) (e n : Item)
    (h : machineToTable c m = .conflict s e n) : Genuine c m s e n :=
  conflict_genuine c m s e n h

/-- **C04 for the generator's own automaton, every validated file**: whenever `validated_ast_to_machine` returns a
machine `m`, `machine_to_table` does exactly one of two things — it returns a table and `m` has no pair of items
demanding different actions on one lookahead column, or it reports a conflict and that conflict is such a pair.
There is no third outcome (no panic: `Proofs/NoPanic`), so *a parser is emitted iff the generated automaton is
conflict-free*.  (That the generated automaton is *the* LALR(1) automaton of the grammar is `C04_emitted_iff_lalr1`
below.) -/
theorem C04_emitted_iff_conflict_free (vf : VFile.File) (enc : Encode.Enc) (m : Machine) (fuel : Nat)
    (he : Encode.encode vf = some enc) (hm : machineOf enc.ctx fuel = some (some m)) :
    ((∃ t, machineToTable enc.ctx m = .ok t) ∧ ¬ ∃ s e n, Genuine enc.ctx m s e n) ∨
    (∃ s e n, machineToTable enc.ctx m = .conflict s e n ∧ Genuine enc.ctx m s e n) := by
  obtain ⟨fm, _, mok⟩ := machineOf_ok (Encode.encode_ok he).terms hm
  exact table_or_conflict (Encode.encode_ok he) mok

/-- **C04 in the textbook's terms, every validated file**: a table (hence a parser) is produced iff the grammar has
no LALR(1) conflict, and a conflict is reported iff it has one — where an *LALR(1) conflict of the grammar*
(`Machine.LalrConflict`, stated without reference to the generated automaton) is: two states of the canonical
LR(1) collection with the same set of cores hold two items that want different parser actions (shift on the
terminal right of the dot / reduce by the item's rule on the item's lookahead / accept on end of input) on one
lookahead column.  This covers shift/reduce, reduce/reduce and accept/reduce conflicts, conflicts that exist only
after merging (LR(1)-but-not-LALR(1) grammars: `I1 ≠ I2`), and never rejects a grammar whose merged canonical
collection is conflict-free (LALR(1)-but-not-SLR(1) included).  The FIRST map `fm` used by the canonical
collection is the generator's, proved closed and sound (`firstSets_closed`, `firstSets_sound`), i.e. exact. -/
theorem C04_emitted_iff_lalr1 (vf : VFile.File) (enc : Encode.Enc) (m : Machine) (fuel : Nat)
    (he : Encode.encode vf = some enc) (hm : machineOf enc.ctx fuel = some (some m)) :
    ∃ fm, firstSets enc.ctx fuel = some (some fm) ∧ Valid.firstClosedB enc.ctx.g (toTbl fm) = true ∧
      FmSound enc.ctx.g fm ∧
      ((∃ t, machineToTable enc.ctx m = .ok t) ↔ ¬ LalrConflict enc.ctx fm) ∧
      ((∃ s e n, machineToTable enc.ctx m = .conflict s e n) ↔ LalrConflict enc.ctx fm) := by
  have ok := Encode.encode_ok he
  obtain ⟨fm, hfm, mok⟩ := machineOf_ok ok.terms hm
  have hiff := genuine_iff_lalrConflict ok (firstSets_closed hfm).2.1 mok
  refine ⟨fm, hfm, (firstSets_closed hfm).1, firstSets_sound hfm, ?_⟩
  rcases table_or_conflict ok mok with ⟨ht, hfree⟩ | ⟨s, e, n, hc, hg⟩
  · exact ⟨⟨fun _ hl => hfree (hiff.mpr hl), fun _ => ht⟩,
      ⟨fun ⟨s, e, n, h⟩ => hiff.mp ⟨s, e, n, conflict_genuine _ _ s e n h⟩, fun hl => absurd (hiff.mpr hl) hfree⟩⟩
  · have hl := hiff.mp ⟨s, e, n, hg⟩
    exact ⟨⟨fun ⟨t, ht⟩ => (by rw [hc] at ht; cases ht), fun hn => absurd hl hn⟩, ⟨fun _ => hl, fun _ => ⟨s, e, n, hc⟩⟩⟩

/-- non-vacuity of `want`: a completed item wants a reduction on its lookahead, an item with a terminal right
of the dot wants a shift on it (a two-rule grammar `0 → t0`, `0 → t0 t1`: shift/reduce on different columns) -/
example :
    let c : Ctx := { g := { rules := [⟨0, [.t 0]⟩, ⟨0, [.t 0, .t 1]⟩], start := 0 }, nT := 2, nN := 1 }
    want c ⟨0, 2, 1⟩ = some (2, .reduce 0) ∧ want c ⟨1, 2, 1⟩ = some (1, .shift) ∧ want c ⟨2, 2, 1⟩ = some (2, .accept) := by
  decide

/-- **C04, "hence every ambiguous grammar", every validated file**: if some token sequence has two different
derivation trees from the start symbol, no table is produced — `machine_to_table` reports a (genuine) conflict.
(A produced table would make the emitted driver complete for the grammar, and a complete deterministic driver
returns *the* derivation tree of its input: `C02_unique`.) -/
theorem C04_ambiguous_rejected {P : Type} (vf : VFile.File) (enc : Encode.Enc) (m : Machine) (fuel : Nat)
    (he : Encode.encode vf = some enc) (hm : machineOf enc.ctx fuel = some (some m))
    (t1 t2 : Tree Nat P) (h1 : WF enc.ctx.g t1 (.n enc.ctx.g.start)) (h2 : WF enc.ctx.g t2 (.n enc.ctx.g.start))
    (hy : t1.yield = t2.yield) (hne : t1 ≠ t2) :
    ∃ s e n, machineToTable enc.ctx m = .conflict s e n ∧ Genuine enc.ctx m s e n := by
  have ok := Encode.encode_ok he
  obtain ⟨fm, _, mok⟩ := machineOf_ok ok.terms hm
  rcases table_or_conflict ok mok with ⟨⟨t, h⟩, _⟩ | h
  · obtain ⟨fm', hk, _⟩ := Universal.generator_checked ok hm h
    exact absurd (C02.C02_unique (Valid.complete_of_checked (P := P) hk) t1 t2 h1 h2 hy) hne
  · exact h

/-- non-vacuity of `C04_ambiguous_rejected`'s premises: the grammar `S → t0 | A`, `A → t0` has two different
derivation trees of the one-token sequence `t0` -/
example :
    let g : Grammar Nat Nat := { rules := [⟨0, [.t 0]⟩, ⟨0, [.n 1]⟩, ⟨1, [.t 0]⟩], start := 0 }
    let tk : Tok Nat Unit := ⟨0, ()⟩
    let t1 : Tree Nat Unit := .node 0 [.leaf tk]
    let t2 : Tree Nat Unit := .node 1 [.node 2 [.leaf tk]]
    WF g t1 (.n g.start) ∧ WF g t2 (.n g.start) ∧ t1.yield = t2.yield ∧ t1 ≠ t2 := by
  intro g tk t1 t2
  refine ⟨?_, ?_, rfl, ?_⟩
  · exact WF.node 0 ⟨0, [.t 0]⟩ _ rfl (.cons (.leaf tk) .nil)
  · exact WF.node 1 ⟨0, [.n 1]⟩ _ rfl (.cons (WF.node 2 ⟨1, [.t 0]⟩ _ rfl (.cons (.leaf tk) .nil)) .nil)
  · intro h; injection h with h1 _; cases h1

end KikiVerif.C04

#print axioms KikiVerif.C04.C04_setAction_ok_iff
#print axioms KikiVerif.C04.C04_setAction_fresh
#print axioms KikiVerif.C04.C04_ok_conflict_free
#print axioms KikiVerif.C04.C04_conflict_genuine
#print axioms KikiVerif.C04.C04_emitted_iff_conflict_free
#print axioms KikiVerif.C04.C04_emitted_iff_lalr1
#print axioms KikiVerif.C04.C04_ambiguous_rejected
