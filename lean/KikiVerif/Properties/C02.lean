/-
C02 — an accepted input yields its faithful derivation tree with original payloads.

`C02_tree`: whatever the driver returns with `Ok` is a well-formed derivation
tree whose yield is the consumed input — the *tokens themselves*, payloads
included (payloads are an opaque type parameter, so the driver cannot alter
them), each exactly once and in order.
`C02_that_tree`: for a sentence given by a derivation tree `t`, the driver
returns exactly `t`; together with determinism of `step` this is uniqueness.
The user-visible value is `userView` of that tree (`Driver.debugTree` renders
it); the correspondence compares it with the compiled parser's `Debug` output.
-/
import KikiVerif.LR.Snd
import KikiVerif.Proofs.Run
import KikiVerif.Proofs.Valid
import KikiVerif.Proofs.Universal
import KikiVerif.Proofs.Encode

namespace KikiVerif.C02
open KikiVerif.LR

variable {T N P : Type}

theorem C02_tree {g : Grammar T N} {A : Auto T N} (hs : Sound g A) (c : Cfg T P)
    (u : List (Tok T P)) (h : Stk g A c.states c.nodes u) (t : Tree T P) (hok : step g A c = .ok t) :
    WF g t (.n g.start) ∧ t.yield = u ∧ c.rest = [] := by
  have := step_inv hs c u h
  rw [hok] at this
  exact ⟨this.1, this.2.1.symm, this.2.2⟩

theorem C02_that_tree {g : Grammar T N} {A : Auto T N} (hc : Complete (P := P) g A)
    (t : Tree T P) (hwf : WF g t (.n g.start)) :
    ∃ c, Steps g A ⟨[A.start], [], t.yield⟩ c ∧ step g A c = .ok t :=
  run_complete hc t hwf

/-- **unambiguity**: two derivation trees of the same token sequence are equal -/
theorem C02_unique {g : Grammar T N} {A : Auto T N} (hc : Complete (P := P) g A)
    (t1 t2 : Tree T P) (h1 : WF g t1 (.n g.start)) (h2 : WF g t2 (.n g.start)) (hy : t1.yield = t2.yield) :
    t1 = t2 := by
  obtain ⟨c, hs, ho⟩ := run_complete hc t1 h1
  have := stuck_ok hc h2 (hy ▸ hs) (by simp [ho])
  rw [ho] at this
  injection this

open KikiVerif.Valid in
/-- **C02 for a validated automaton**: an accepted run returns a well-formed derivation tree whose leaves are
the input tokens themselves (payloads included), each exactly once and in order; and it is the only
derivation tree of that input -/
theorem C02_faithful {P : Type} {g : Grammar Nat Nat} {nN : Nat} {C : Cert} (hv : validB g nN C = true)
    (w : List (Tok Nat P)) (fuel : Nat) (t : Tree Nat P) (cf : Cfg Nat P)
    (hrun : runCfg g (mkAuto C) fuel ⟨[(mkAuto C).start], [], w⟩ = some (.ok t, cf)) :
    WF g t (.n g.start) ∧ t.yield = w ∧ ∀ t' : Tree Nat P, WF g t' (.n g.start) → t'.yield = w → t' = t := by
  obtain ⟨hs, hc⟩ := validB_sound (P := P) hv
  have h := (run_result hs hc hrun).2
  exact ⟨((h t).mp rfl).1, ((h t).mp rfl).2, fun t' hw hy => StepRes.ok.inj ((h t').mpr ⟨hw, hy⟩).symm⟩

/-- **C02 for every validated file** (generator theorem, `Proofs/Universal`): whenever the generator stages
succeed, whatever the emitted parse loop returns with `Ok` is a derivation tree of the (coded) grammar whose
leaves are exactly the input tokens, payloads included, in order; and since every generated automaton is
`Complete`, that tree is the only derivation tree of the input (a grammar for which a table is emitted is
unambiguous) -/
theorem C02_every_grammar {P : Type} (vf : VFile.File) (enc : Encode.Enc) (m : Machine.Machine) (t : Table.Table)
    (fuel : Nat) (he : Encode.encode vf = some enc) (hm : Machine.machineOf enc.ctx fuel = some (some m))
    (ht : Table.machineToTable enc.ctx m = .ok t)
    (w : List (Tok Nat P)) (fuel' : Nat) (tr : Tree Nat P) (cf : Cfg Nat P)
    (hrun : runCfg enc.ctx.g (Driver.autoOfTable t) fuel' ⟨[(Driver.autoOfTable t).start], [], w⟩ = some (.ok tr, cf)) :
    WF enc.ctx.g tr (.n enc.ctx.g.start) ∧ tr.yield = w ∧
      ∀ tr2 : Tree Nat P, WF enc.ctx.g tr2 (.n enc.ctx.g.start) → tr2.yield = w → tr2 = tr := by
  have h := (Universal.emitted_parser_result (Encode.encode_ok he) hm ht hrun).2
  exact ⟨((h tr).mp rfl).1, ((h tr).mp rfl).2, fun tr2 hw hy => StepRes.ok.inj ((h tr2).mpr ⟨hw, hy⟩).symm⟩

end KikiVerif.C02

#print axioms KikiVerif.C02.C02_every_grammar
#print axioms KikiVerif.C02.C02_tree
#print axioms KikiVerif.C02.C02_that_tree
#print axioms KikiVerif.C02.C02_unique
#print axioms KikiVerif.C02.C02_faithful
