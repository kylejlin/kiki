/-
C16 — whitespace, line endings and comments never influence the result.
The tokenizer equals the scanner specification on every text (`C16_tokenize_eq_spec`), and the scanner
skips a `White_Space` character and a whole `//` comment (terminated by `\n`, or by the end of the input)
without producing a token, resuming right after them.  As one statement: layout inserted at any scan point
changes nothing but positions (`C16_layout_at_boundary`), and two texts with the same tokens up to positions give
the same result of `generate` up to the digest and the positions in errors (`C16_layout_insensitive`,
`C16_insert_layout_end_to_end`).
-/
import KikiVerif.Proofs.Shift
import KikiVerif.Spec.Lex
import KikiVerif.Proofs.Tokenize
import KikiVerif.Proofs.Layout
import KikiVerif.Proofs.Separator

namespace KikiVerif.C16
open KikiVerif KikiVerif.Spec KikiVerif.Text

/-- a `White_Space` character between tokens produces nothing -/
theorem C16_skip_whitespace (c : Char) (rest : Str) (i : Nat) (h : isWhitespace c = true) :
    scanFrom (c :: rest) i = scanFrom rest (i + clen c) := by
  rw [scanFrom_skip (next_whitespace c rest i h)]
  simp [blen]

theorem C16_tokenize_eq_spec (src : Str) : Tokenize.tokenize src = scan src := Tokenize.tokenize_eq_scan src

/-- a `//` comment with arbitrary content up to the next `\n` produces nothing; scanning resumes after the
line break -/
theorem C16_skip_comment (body rest : Str) (i : Nat) (h : ∀ c ∈ body, c ≠ '\n') :
    scanFrom ('/' :: '/' :: (body ++ '\n' :: rest)) i = scanFrom rest (i + (2 + blen body + 1)) := by
  rw [scanFrom_comment body rest i h]
  congr 1
  simp only [blen_cons, blen_append, blen_nil, show clen '/' = 1 from rfl, show clen '\n' = 1 from rfl]
  omega

/-- a final comment without a line break produces nothing either -/
theorem C16_trailing_comment (body : Str) (i : Nat) (h : ∀ c ∈ body, c ≠ '\n') :
    scanFrom ('/' :: '/' :: body) i = .ok [] := by
  simpa using open_comment_layout .nil body i h

/-- **the scanner is translation invariant**: the same characters scanned at another byte offset give the same
tokens with every position moved by the difference (same lexical error, moved likewise) — so the amount of
layout before a point influences what follows only through positions -/
theorem C16_translation_invariant (cs : Str) (i d : Nat) :
    scanFrom cs (i + d) = Spec.shiftRes d (scanFrom cs i) :=
  Spec.scanFrom_shift cs i d

/-- leading whitespace — any of the 25 `White_Space` characters, any amount, at any offset — does not change the
kinds and payloads of the tokens that follow -/
theorem C16_leading_whitespace (ws cs : Str) (i j : Nat) (h : ∀ c ∈ ws, isWhitespace c = true) :
    (match scanFrom (ws ++ cs) i with | .ok ts => some (ts.map Spec.erase) | _ => none) =
    (match scanFrom cs j with | .ok ts => some (ts.map Spec.erase) | _ => none) :=
  Spec.leading_whitespace_irrelevant ws cs i j h

/-- **C16, end to end: the layout never influences the result.**  If two source texts tokenize to the same token
sequence up to positions (same kinds, names and attribute texts — what inserting or removing whitespace, line
breaks and comments between tokens preserves, by the scanner theorems above), then the two runs of `generate`
(any digests, any fuel) have the same coded grammar, automaton and table; the same emitted module except for the
digest in the header — the emitted texts are `header sha₁ ++ b` and `header sha₂ ++ b` with one and the same
`b`; and they stop the same way: both done, the same table conflict, or *the same error with its positions
shifted accordingly* — a static error of the same variant with the same names whose positions are `posOf t₁ k`
and `posOf t₂ k` for the same indices `k` (`SameErr.static`: `posOf t k` is the stored position of the `k`-th
token of `t`, 0 if there is none; that `k` is in range is not stated), a parse error at the same token
index with that token's own span in either text (`parseAt`), or both at end of input (`parseEof`).
Proof (`Proofs/Relabel`, `Proofs/Layout`): the front-end parser reads token kinds only, `cst_to_ast` and
`validate_ast` only copy positions (naturality under every relabelling `ρ : Nat → Nat`), and nothing after
validation reads a position; both token lists are relabellings of the list that carries the token indices. -/
theorem C16_layout_insensitive (src1 src2 sha1 sha2 : Str) (fuel : Nat) (t1 t2 : List Token)
    (h1 : Tokenize.tokenize src1 = .ok t1) (h2 : Tokenize.tokenize src2 = .ok t2)
    (he : t1.map Spec.erase = t2.map Spec.erase) :
    Layout.SameResult src1 src2 sha1 sha2 t1 t2 (Generate.stages src1 sha1 fuel) (Generate.stages src2 sha2 fuel) :=
  Layout.relayout src1 src2 sha1 sha2 fuel t1 t2 h1 h2 he

/-- the hypothesis is met, e.g., by any amount of leading `White_Space`: the result is the same up to positions -/
theorem C16_leading_whitespace_end_to_end (ws cs sha1 sha2 : Str) (fuel : Nat) (t1 : List Token)
    (hws : ∀ c ∈ ws, isWhitespace c = true) (h1 : Tokenize.tokenize cs = .ok t1) :
    ∃ t2, Tokenize.tokenize (ws ++ cs) = .ok t2 ∧
      Layout.SameResult (ws ++ cs) cs sha2 sha1 t2 t1 (Generate.stages (ws ++ cs) sha2 fuel) (Generate.stages cs sha1 fuel) := by
  have hl := Spec.leading_whitespace_irrelevant ws cs 0 0 hws
  rw [show scanFrom cs 0 = .ok t1 from (Tokenize.tokenize_eq_scan cs).symm.trans h1] at hl
  cases h2 : scanFrom (ws ++ cs) 0 <;> rw [h2] at hl
  · have ht2 := (Tokenize.tokenize_eq_scan (ws ++ cs)).trans h2
    exact ⟨_, ht2, Layout.relayout _ _ _ _ fuel _ t1 ht2 h1 (Option.some.inj hl)⟩
  all_goals cases hl

/-- **C16, scanner side, as one statement**: `Spec.Reach src 0 ts post i'` says that the scanner, after emitting
`ts`, stands at the suffix `post` of `src` — `post` starts at a token boundary (the start of a token, of a
whitespace character or of a comment).  Putting any layout `L` (`Spec.Layout`: `White_Space` characters and
complete `//…\n` comments, in any mixture) in at that point leaves the tokens before it untouched and moves
everything behind it by the length of `L`: the same tokens up to positions, or the same lexical error shifted.
Read from right to left it is the statement for *removing* layout that stands at a boundary. -/
theorem C16_layout_at_boundary {src : Str} {ts : List Token} {post : Str} {i' : Nat}
    (h : Spec.Reach src 0 ts post i') {L : Str} (hL : Spec.Layout L) :
    ∃ pre, src = pre ++ post ∧
      (∀ t1, Tokenize.tokenize src = .ok t1 → ∃ tp, t1 = ts ++ tp ∧
        Tokenize.tokenize (pre ++ L ++ post) = .ok (ts ++ tp.map (Spec.shiftTok (blen L)))) ∧
      (∀ j c, Tokenize.tokenize src = .err (.lex j c) →
        Tokenize.tokenize (pre ++ L ++ post) = .err (.lex (j + blen L) c)) := by
  simpa only [Tokenize.tokenize_eq_scan, scan] using Spec.insert_layout_result h hL

/-- **C16, whole pipeline**: layout put in at any token boundary of an accepted-by-the-tokenizer text changes
nothing in `generate`'s result except the digest in the header and positions (`Layout.SameResult`: same coded
grammar, automaton, table, module up to the digest, same conflict, or the same error with its positions shifted
accordingly) -/
theorem C16_insert_layout_end_to_end {src : Str} {ts : List Token} {post : Str} {i' : Nat}
    (h : Spec.Reach src 0 ts post i') {L : Str} (hL : Spec.Layout L) (sha1 sha2 : Str) (fuel : Nat)
    (t1 : List Token) (ht : Tokenize.tokenize src = .ok t1) :
    ∃ pre t2, src = pre ++ post ∧ Tokenize.tokenize (pre ++ L ++ post) = .ok t2 ∧
      Layout.SameResult src (pre ++ L ++ post) sha1 sha2 t1 t2
        (Generate.stages src sha1 fuel) (Generate.stages (pre ++ L ++ post) sha2 fuel) := by
  obtain ⟨pre, e, h1, _⟩ := C16_layout_at_boundary h hL
  obtain ⟨tp, et, h2⟩ := h1 t1 ht
  refine ⟨pre, _, e, h2, ?_⟩
  exact Layout.relayout src _ sha1 sha2 fuel t1 _ ht h2 (by simp [et, Function.comp_def, Spec.erase_shiftTok])

/-- the hypotheses are satisfiable in a non-trivial way: in `start S`, the point between the two tokens is a
scan point, and a comment followed by a tab is layout -/
example : Spec.Reach "start S".toList 0 [.startKw 0] " S".toList 5 ∧ Spec.Layout "// c\n\t".toList := by
  rw [String.toList_ofList, String.toList_ofList, String.toList_ofList]
  exact ⟨.emit (k := 4) (by rfl) (.refl _ _), .comment (body := [' ', 'c']) (by decide) (.ws (by decide) .nil)⟩

end KikiVerif.C16

#print axioms KikiVerif.C16.C16_skip_whitespace
#print axioms KikiVerif.C16.C16_tokenize_eq_spec
#print axioms KikiVerif.C16.C16_skip_comment
#print axioms KikiVerif.C16.C16_trailing_comment
#print axioms KikiVerif.C16.C16_translation_invariant
#print axioms KikiVerif.C16.C16_layout_insensitive
#print axioms KikiVerif.C16.C16_layout_at_boundary
#print axioms KikiVerif.C16.C16_insert_layout_end_to_end
#print axioms KikiVerif.C16.C16_leading_whitespace_end_to_end
#print axioms KikiVerif.C16.C16_leading_whitespace
