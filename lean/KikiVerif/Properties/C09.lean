/-
C09 — files are accepted exactly per the Kiki grammar; parse errors are exact.

The data (`Generated/ParserRs.lean`, `Generated/ParserKiki.lean`, `Generated/ParserCert.lean`) is regenerated
from `parser.rs` / `parser.kiki` on every run; the facts about it (numbering, reduce arms, validity of the
tables) are kernel evaluations, so they are re-proved against the current sources.  What is said of
`parser::parse`, for every token list, follows from them.
-/
import KikiVerif.Model.FrontParse
import KikiVerif.Proofs.Valid
import KikiVerif.Proofs.Run
import KikiVerif.Generated.ParserCert
import KikiVerif.Proofs.CstToAst
import KikiVerif.Proofs.ParseErr
import KikiVerif.LR.Early
import KikiVerif.Proofs.HaltFront
import KikiVerif.Proofs.FrontTables

namespace KikiVerif.C09
open KikiVerif KikiVerif.FrontParse KikiVerif.Generated KikiVerif.LR

/-- the token kinds of the model are the `QuasiterminalKind` variants of `parser.rs`, in order,
and the terminals `parser.kiki` declares, in order -/
theorem C09_kinds : kindNames = ParserRs.terminalNames ∧ ParserKiki.terminals.map (·.1) = ParserRs.terminalNames := by
  decide +kernel

/-- the nonterminal kinds of `parser.rs` are the declarations of `parser.kiki`, in order -/
theorem C09_nonterminals :
    (ParserKiki.decls.map fun | .struct n _ => n | .enum n _ => n) = ParserRs.nonterminalNames := by
  decide +kernel

def declCtorNames : List String :=
  ParserKiki.decls.flatMap fun
    | .struct n _ => [n]
    | .enum n vs => vs.map fun v => n ++ "::" ++ v.1

/-- rule `i` of the tables builds the constructor the model's `cstToAst` assumes for `i`, and that
is the `i`-th struct / enum variant of `parser.kiki` -/
theorem C09_rule_numbering :
    ruleCtorNames = declCtorNames ∧ ruleCtorNames = ParserRs.reduceArms.map (·.ctor) :=
  ⟨by decide +kernel, rfl⟩

/-- every reduce arm pops exactly the right-hand side of its rule and returns its left-hand side -/
theorem C09_reduce_arms :
    kikiRules.isSome = true ∧
    armRules.map (fun r => (r.lhs, r.rhs.length)) = kikiG.rules.map (fun r => (r.lhs, r.rhs.length)) ∧
    (ParserRs.reduceArms.map fun a => a.pops.length) = ParserRs.reduceArms.map (·.truncate) := by
  rw [kikiRules_eq, rules_eq]
  decide +kernel

/-! ### the extracted tables are a valid LR automaton for the Kiki grammar -/

theorem C09_sound_complete {P : Type} :
    Sound kikiG (Valid.mkAuto parserCert) ∧ Complete (P := P) kikiG (Valid.mkAuto parserCert) :=
  Valid.validB_sound C09_table_valid

theorem arm_rules_agree (r : Nat) :
    (armG.rules[r]?).map (fun (x : Rule Nat Nat) => (x.lhs, x.rhs.length)) =
      (kikiG.rules[r]?).map (fun (x : Rule Nat Nat) => (x.lhs, x.rhs.length)) := by
  simpa only [armG, List.getElem?_map] using congrArg (·[r]?) C09_reduce_arms.2.1

/-- the driver of `parser.rs` over its own reduce arms behaves as the LR driver for the Kiki grammar
over the validated automaton -/
theorem front_step_eq (c : Cfg Nat Token) :
    step armG frontAuto c = step kikiG (Valid.mkAuto parserCert) c := by
  rw [step_congr_grammar arm_rules_agree c]
  apply step_congr_auto <;> rfl

/-- **C09, acceptance**: for every token list, the front-end parser never panics; whenever it returns, it
returns a CST iff the token sequence is a sentence of the Kiki grammar of `parser.kiki`, and the CST is a
derivation tree whose leaves are exactly the input tokens in order -/
theorem C09_parse_correct (toks : List Token) (fuel : Nat) (out : ParseOut) (h : parse toks fuel = some out) :
    (match out with | .panic => False | _ => True) ∧
    (∀ t, (match out with | .ok t' => t' = t | _ => False) →
        WF kikiG t (.n kikiG.start) ∧ t.yield = toks.map mkTok) ∧
    ((∃ t, match out with | .ok t' => t' = t | _ => False) ↔
        ∃ t : Tree Nat Token, WF kikiG t (.n kikiG.start) ∧ t.yield = toks.map mkTok) := by
  unfold parse at h
  rw [runCfg_congr front_step_eq] at h
  rcases hr : runCfg kikiG (Valid.mkAuto parserCert) fuel ⟨[frontAuto.start], [], toks.map mkTok⟩ with _ | ⟨r, cf⟩ <;>
    rw [hr] at h
  · cases h
  obtain rfl := Option.some.inj h
  obtain ⟨hs, hc⟩ := C09_sound_complete (P := Token)
  obtain ⟨h1, h2, h3⟩ := run_sound hs fuel _ [] .base _ _ hr
  have hiff := run_ok_iff hs hc (toks.map mkTok) fuel r cf hr
  cases r with
  | panic => exact absurd rfl h1
  | cont c' => exact absurd rfl (h2 c')
  | err => exact ⟨trivial, nofun, fun ⟨_, ht⟩ => ht.elim, fun hex => (hiff.mpr hex).elim nofun⟩
  | ok t => exact ⟨trivial, fun _ ht' => ht' ▸ by simpa using h3 t rfl, fun _ => hiff.mp ⟨t, rfl⟩, fun _ => ⟨t, rfl⟩⟩

/-- **C09, flattening**: whenever the front-end parser accepts, `cst_to_ast` succeeds on the CST it
returned, and unparsing the resulting AST (`Spec/Unparse.lean`: the concrete syntax of `.kiki` files) gives
back exactly the input tokens without their positions, in order: no item, attribute, field, variant, path
segment or type argument is dropped, duplicated or reordered -/
theorem C09_flatten (toks : List Token) (fuel : Nat) (t : CTree) (h : parse toks fuel = some (.ok t)) :
    ∃ ast, cstToAst t = some ast ∧ Spec.unFile ast = toks.map Spec.erase := by
  obtain ⟨_, h2, _⟩ := C09_parse_correct toks fuel (.ok t) h
  obtain ⟨hw, hy⟩ := h2 t rfl
  have hg : Good t := by
    intro l hl
    rw [hy] at hl
    obtain ⟨tok, _, rfl⟩ := List.mem_map.mp hl
    rfl
  obtain ⟨ast, h1, h2⟩ := cstToAst_ok hw hg
  exact ⟨ast, h1, by rw [h2, EY, hy, List.map_map]; rfl⟩

/-- **C09, parse errors are exact (span and text)**: when the front-end parser stops at a token of
`tokenize src`, that token exists (`index < tokens.len()`), and the `KikiErr::Parse` built from it carries the
token's own start offset, its own text — the slice of the source at that offset — and the matching end offset;
the conversion cannot panic (no `Token::start` underflow, no bad slice).  At end of input the error is
`Parse(len, "", len)`.  (That the token is the *first offending* one is `C03_front_end_first_offending`.) -/
theorem C09_error_span (src : Str) (toks : List Token) (htok : Tokenize.tokenize src = .ok toks) (fuel : Nat)
    (idx : Option Nat) (h : parse toks fuel = some (.unexpected idx)) :
    (∀ k, idx = some k → k < toks.length) ∧
    (∀ t, idx.bind (toks[·]?) = some t →
      unexpectedToErr src (some t) =
        .ok (.parse (Spec.tokStart t) (Spec.tokText t) (Spec.tokStart t + Text.blen (Spec.tokText t)))) ∧
    unexpectedToErr src none = .ok (.parse (Text.blen src) [] (Text.blen src)) := by
  refine ⟨?_, ?_, rfl⟩
  · rintro k rfl
    unfold parse at h
    rcases hr : runCfg armG frontAuto fuel ⟨[frontAuto.start], [], toks.map mkTok⟩ with _ | ⟨r, cf⟩ <;> rw [hr] at h
    · cases h
    have hle := steps_rest_le (runCfg_spec fuel _ _ _ hr).1
    cases r <;> simp only [Option.map_some, Option.some.injEq, ParseOut.unexpected.injEq, reduceCtorEq] at h
    split at h
    · cases h
    · rename_i hne
      have := List.length_pos_iff.mpr fun e : cf.rest = [] => hne (by rw [e]; rfl)
      simp only [List.length_map, Option.some.injEq] at hle h
      omega
  · intro t ht
    cases idx with
    | none => cases ht
    | some k => exact unexpectedToErr_token src toks htok t (List.mem_of_getElem? ht)

/-- **C09, the front-end parser decides every token sequence**: `parser::parse` stops on every token list —
sentence or not — within `HaltFront.parseBound` steps (linear in the number of tokens; the potential that
shows it is searched and checked inside the kernel on the tables extracted from `parser.rs` on this run), and the
answer it stops with is a CST iff the token sequence is a sentence of the Kiki grammar -/
theorem C09_parse_decides (toks : List Token) (k : Nat) :
    ∃ out, parse toks (HaltFront.parseBound toks.length + k) = some out ∧
      (∀ t, out = .ok t → WF kikiG t (.n kikiG.start) ∧ t.yield = toks.map mkTok) ∧
      ((∃ idx, out = .unexpected idx) ↔
        ¬ ∃ t : Tree Nat Token, WF kikiG t (.n kikiG.start) ∧ t.yield = toks.map mkTok) := by
  obtain ⟨out, ho⟩ := HaltFront.front_parse_halts toks k
  obtain ⟨h1, h2, h3⟩ := C09_parse_correct toks _ out ho
  refine ⟨out, ho, fun t e => h2 t (e ▸ rfl), ?_⟩
  cases out with
  | panic => exact h1.elim
  | ok t => exact ⟨nofun, fun hn => absurd (h3.mp ⟨t, rfl⟩) hn⟩
  | unexpected idx => exact ⟨fun _ hex => (h3.mpr hex).elim fun _ ht => ht, fun _ => ⟨idx, rfl⟩⟩

end KikiVerif.C09

#print axioms KikiVerif.C09.C09_error_span
#print axioms KikiVerif.C09.C09_kinds
#print axioms KikiVerif.C09.C09_nonterminals
#print axioms KikiVerif.C09.C09_rule_numbering
#print axioms KikiVerif.C09.C09_reduce_arms
#print axioms KikiVerif.C09.C09_table_valid
#print axioms KikiVerif.C09.C09_parse_correct
#print axioms KikiVerif.C09.C09_flatten
#print axioms KikiVerif.C09.C09_parse_decides
