/-
C11 — a table-conflict error pinpoints a real conflict in the real automaton.
`C11_payload`: for every grammar and every automaton handed to `machine_to_table`, a conflict report names
a state of that automaton, two items of that state, and the two items demand different parser actions on the
same lookahead column (terminal or end of input).
-/
import KikiVerif.Model.Table
import KikiVerif.Proofs.Table
import KikiVerif.Proofs.Generator
import KikiVerif.Proofs.Encode
import KikiVerif.Proofs.FirstSound
import KikiVerif.Proofs.LalrConflict

namespace KikiVerif.C11
open KikiVerif.Table KikiVerif.Machine KikiVerif.LR

/-- `set_action` reports a conflict only for the state it was asked about, pairs the item that
filled the cell with the new item, and the two demanded actions differ -/
theorem C11_setAction_conflict (tb : TB) (state col : Nat) (it : Item) (a : Action)
    (s : Nat) (e n : Item) (h : setAction tb state col it a = .conflict s e n) :
    s = state ∧ n = it ∧ ∃ ea, tb.actions.lookup (state, col) = some (e, ea) ∧ ea ≠ a := by
  unfold setAction at h
  split at h
  · rename_i existing ea hl
    split at h
    · cases h
    · rename_i hne
      cases h
      exact ⟨rfl, rfl, ea, hl, hne⟩
  · cases h

/-- **C11, the payload**: the reported state index is a state of the automaton, both reported items belong to
that state, and they demand (`Table.demand`: shift on the terminal after the dot / reduce on the item's
lookahead / accept on end of input) different actions on the same lookahead column -/
theorem C11_payload (c : Ctx) (m : Machine) (s : Nat) (e n : Item)
    (h : machineToTable c m = .conflict s e n) :
    (∃ st, m.states[s]? = some st ∧ e ∈ st ∧ n ∈ st) ∧
    ∃ col ae an, demand c m s e = some (col, ae) ∧ demand c m s n = some (col, an) ∧ ae ≠ an :=
  conflict_genuine c m s e n h

/-- **C11, the attached automaton, every validated file**: when `machine_to_table` reports a conflict on the
machine `validated_ast_to_machine` built, the reported state, items and actions are a genuine conflict
(`C11_payload`), *and* that machine is the LALR(1) automaton of the grammar in the sense of `C17`: its item sets,
lookaheads included, are exactly the least fixed point of the LALR(1) propagation rules over its transition
graph (w.r.t. a closed and sound FIRST map), no two states share a core, transitions are functional -/
theorem C11_attached_automaton (vf : VFile.File) (enc : Encode.Enc) (m : Machine) (fuel : Nat)
    (he : Encode.encode vf = some enc) (hm : machineOf enc.ctx fuel = some (some m))
    (s : Nat) (e n : Item) (hc : machineToTable enc.ctx m = .conflict s e n) :
    Genuine enc.ctx m s e n ∧
    ∃ fm, firstSets enc.ctx fuel = some (some fm) ∧ Valid.firstClosedB enc.ctx.g (toTbl fm) = true ∧
      FmSound enc.ctx.g fm ∧
      (∀ s y, (s < m.states.length ∧ y ∈ m.states.getD s []) ↔ Deriv enc.ctx fm m.start m.transitions s y) ∧
      (∀ s1 s2, s1 < m.states.length → s2 < m.states.length →
        SameCores (m.states.getD s1 []) (m.states.getD s2 []) → s1 = s2) := by
  obtain ⟨fm, hfm, mok⟩ := machineOf_ok (Encode.encode_ok he).terms hm
  exact ⟨conflict_genuine _ _ s e n hc, fm, hfm, (firstSets_closed hfm).1, firstSets_sound hfm, items_exact mok,
    mok.distinct⟩

/-- **C11 in the textbook's terms, every validated file**: the two items of a conflict report are an LALR(1)
conflict *of the grammar* (no reference to how the automaton was built): each lies, lookahead included, in a state
of the canonical LR(1) collection whose cores are those of the reported state (so both canonical states are merged
into it), and the two items want different parser actions (`Machine.want`: shift on the terminal right of the dot /
reduce by the item's rule on the item's lookahead / accept on end of input) on one lookahead column -/
theorem C11_conflict_is_lalr1 (vf : VFile.File) (enc : Encode.Enc) (m : Machine) (fuel : Nat)
    (he : Encode.encode vf = some enc) (hm : machineOf enc.ctx fuel = some (some m))
    (s : Nat) (e n : Item) (hc : machineToTable enc.ctx m = .conflict s e n) :
    ∃ fm, firstSets enc.ctx fuel = some (some fm) ∧
      ∃ (I1 I2 : Item → Prop) (col : Nat) (w1 w2 : Want),
        CanonState enc.ctx fm I1 ∧ CanonState enc.ctx fm I2 ∧ SameCoresPS I1 (m.states.getD s []) ∧
        SameCoresPS I2 (m.states.getD s []) ∧ I1 e ∧ I2 n ∧
        want enc.ctx e = some (col, w1) ∧ want enc.ctx n = some (col, w2) ∧ w1 ≠ w2 := by
  have ok := Encode.encode_ok he
  obtain ⟨fm, hfm, mok⟩ := machineOf_ok ok.terms hm
  exact ⟨fm, hfm, genuine_lalr ok (firstSets_closed hfm).2.1 mok (conflict_genuine _ _ s e n hc)⟩

end KikiVerif.C11

#print axioms KikiVerif.C11.C11_setAction_conflict
#print axioms KikiVerif.C11.C11_payload
#print axioms KikiVerif.C11.C11_attached_automaton
#print axioms KikiVerif.C11.C11_conflict_is_lalr1
