/-
C01 — the generated parser accepts exactly the language of the declared grammar.

Layering (DESIGN.md §6): the emitted `parse` is `LR.step` iterated over the
emitted tables (`Driver.autoOfTable`).  For *any* automaton satisfying the
local validity conditions `Sound` / `Complete`:
  * `C01_no_panic_and_sound`: a step from a consistent configuration never
    panics, keeps the configuration consistent, and `Ok t` means `t` is a
    derivation tree of the whole input from the start symbol;
  * `C01_complete`: every sentence is accepted (hence termination on sentences).
Payloads are an opaque type parameter `P` throughout: the driver cannot inspect them.
That the generator's automaton satisfies `Sound ∧ Complete` is proved for every grammar
(`C01_every_grammar`, `C01_generator_passes_validator`); independently the kernel-evaluable
validator (`Proofs/Valid`, theorem `validB_sound`) is applied by the correspondence run to the
*implementation's* machine and table for every generated grammar.
-/
import KikiVerif.LR.Snd
import KikiVerif.Proofs.Run
import KikiVerif.Proofs.Valid
import KikiVerif.Proofs.Universal
import KikiVerif.Proofs.Encode

namespace KikiVerif.C01
open KikiVerif.LR

variable {T N P : Type}

/-- no panic; consistency is preserved; `Ok` is sound -/
theorem C01_no_panic_and_sound {g : Grammar T N} {A : Auto T N} (hs : Sound g A) (c : Cfg T P)
    (u : List (Tok T P)) (h : Stk g A c.states c.nodes u) :
    match step g A c with
    | .panic => False
    | .cont c' => ∃ u', Stk g A c'.states c'.nodes u' ∧ u' ++ c'.rest = u ++ c.rest
    | .ok t => WF g t (.n g.start) ∧ u = t.yield ∧ c.rest = []
    | .err => True :=
  step_inv hs c u h

/-- every sentence is accepted, and the value returned is its derivation tree -/
theorem C01_complete {g : Grammar T N} {A : Auto T N} (hc : Complete (P := P) g A)
    (t : Tree T P) (hwf : WF g t (.n g.start)) :
    ∃ c, Steps g A ⟨[A.start], [], t.yield⟩ c ∧ step g A c = .ok t :=
  run_complete hc t hwf

/-! ### whole runs, for any automaton the validator accepts -/

open KikiVerif.Valid in
/-- **C01 for a validated automaton** (all token sequences, any length, any payload type): the loop of the
emitted `parse` never panics, and whenever it ends it returns `Ok` iff the token sequence is derivable from
the start symbol.  `validB` is the executable validator the correspondence run applies to the machine and
table the implementation built for each generated grammar (and the kernel to `parser.rs`, C09). -/
theorem C01_accepts_iff {P : Type} {g : Grammar Nat Nat} {nN : Nat} {C : Cert} (hv : validB g nN C = true)
    (w : List (Tok Nat P)) (fuel : Nat) (r : StepRes Nat P) (cf : Cfg Nat P)
    (hrun : runCfg g (mkAuto C) fuel ⟨[(mkAuto C).start], [], w⟩ = some (r, cf)) :
    r ≠ .panic ∧ ((∃ t, r = .ok t) ↔ ∃ t : Tree Nat P, WF g t (.n g.start) ∧ t.yield = w) := by
  obtain ⟨hs, hc⟩ := validB_sound (P := P) hv
  exact ⟨(run_result hs hc hrun).1, run_ok_iff hs hc w fuel r cf hrun⟩

open KikiVerif.Valid in
/-- termination on every sentence (on non-sentences: per certified table, `C01_framed_decides`,
`C01_certified_decides`; that every table has a certificate is the residue, DESIGN.md §6.1) -/
theorem C01_sentences_terminate {P : Type} {g : Grammar Nat Nat} {nN : Nat} {C : Cert} (hv : validB g nN C = true)
    (t : Tree Nat P) (hwf : WF g t (.n g.start)) :
    ∃ fuel cf, runCfg g (mkAuto C) fuel ⟨[(mkAuto C).start], [], t.yield⟩ = some (.ok t, cf) :=
  run_accepts (validB_sound (P := P) hv).2 t hwf

/-! ### every grammar: the generator itself -/

/-- **C01 for every validated file** (no per-grammar validation involved): whenever the three generator stages
succeed — `Encode.encode` (names ↦ rank codes), `validated_ast_to_machine` (FIRST fixpoint, closures, worklist
with LALR merging, renumbering) and `machine_to_table` — the emitted parse loop over the emitted tables never
panics on any token sequence, and whenever it ends it returns `Ok` iff the sequence is derivable from the start
symbol of the (coded) grammar.  Proof: `Proofs/{First,Closure,Cores,Build,Normalize,Generator,TableCells,Assemble}`
establish that machine and table pass every check of the validator (`checked_of_generator`). -/
theorem C01_every_grammar {P : Type} (vf : VFile.File) (enc : Encode.Enc) (m : Machine.Machine) (t : Table.Table)
    (fuel : Nat) (he : Encode.encode vf = some enc) (hm : Machine.machineOf enc.ctx fuel = some (some m))
    (ht : Table.machineToTable enc.ctx m = .ok t)
    (w : List (Tok Nat P)) (fuel' : Nat) (r : StepRes Nat P) (cf : Cfg Nat P)
    (hrun : runCfg enc.ctx.g (Driver.autoOfTable t) fuel' ⟨[(Driver.autoOfTable t).start], [], w⟩ = some (r, cf)) :
    r ≠ .panic ∧ ((∃ tr, r = .ok tr) ↔ ∃ tr : Tree Nat P, WF enc.ctx.g tr (.n enc.ctx.g.start) ∧ tr.yield = w) :=
  Universal.emitted_parser_correct (Encode.encode_ok he) hm ht w fuel' r cf hrun

/-- the generator's output always passes the validator that the correspondence run applies per grammar -/
theorem C01_generator_passes_validator (vf : VFile.File) (enc : Encode.Enc) (m : Machine.Machine) (t : Table.Table)
    (fuel : Nat) (he : Encode.encode vf = some enc) (hm : Machine.machineOf enc.ctx fuel = some (some m))
    (ht : Table.machineToTable enc.ctx m = .ok t) :
    ∃ fm, Valid.Checked enc.ctx.g enc.ctx.nN (Assemble.certOf enc.ctx fm m t) :=
  let ⟨fm, hk, _⟩ := Universal.generator_checked (Encode.encode_ok he) hm ht
  ⟨fm, hk⟩

/-- the grammar the generator theorem speaks about *is* the declared grammar: `Encode.encode` replaces every name
by its rank in the strictly ascending list of declared terminal (resp. nonterminal) names, rule by rule, symbol
by symbol, and the start symbol likewise (an injective renaming) -/
theorem C01_coding_faithful {f : VFile.File} {enc : Encode.Enc} (h : Encode.encode f = some enc) :
    Oset.Sorted enc.tsorted ∧ Oset.Sorted enc.nsorted ∧
    (∀ x, x ∈ enc.tsorted ↔ x ∈ f.tenum.variants.map (·.name)) ∧
    (∀ x, x ∈ enc.nsorted ↔ x ∈ f.nonterminals.map (·.name)) ∧
    enc.ctx.nT = enc.tsorted.length ∧ enc.ctx.nN = enc.nsorted.length ∧
    enc.nsorted[enc.ctx.g.start]? = some f.start ∧
    enc.ctx.g.rules.length = f.rules.length ∧
    ∀ (j : Nat) (r : VFile.Rule), f.rules[j]? = some r → ∃ cr : Rule Nat Nat, enc.ctx.g.rules[j]? = some cr ∧
      enc.nsorted[cr.lhs]? = some r.ctor.typeName ∧ cr.rhs.length = r.fieldset.syms.length ∧
      ∀ (k : Nat) (s : Ast.SymId), r.fieldset.syms[k]? = some s →
        ∃ X, cr.rhs[k]? = some X ∧ Encode.decodesTo enc.tsorted enc.nsorted s X :=
  Encode.encode_faithful h

/-- **termination on every token sequence, per certified table**.  `Halt.certified` is an executable check
(`LR/Halt.lean`): it searches a potential `φ` per (lookahead, state) and checks that every reduction the table
allows lowers `cc·(stack height) + φ`; the correspondence run evaluates it on the table of every accepted
grammar of its pools (mode `halts` of the model driver).  Where it holds, the emitted parse loop stops on every
token sequence — sentence or not — within `Halt.stepBound` steps (linear in the length), never panics, and
answers `Ok` iff the sequence is derivable: the emitted parser *decides* the language. -/
theorem C01_certified_decides {P : Type} (vf : VFile.File) (enc : Encode.Enc) (m : Machine.Machine) (t : Table.Table)
    (fuel : Nat) (he : Encode.encode vf = some enc) (hm : Machine.machineOf enc.ctx fuel = some (some m))
    (ht : Table.machineToTable enc.ctx m = .ok t) (fm : List Machine.FirstSet)
    (hcert : Halt.certified (Assemble.certOf enc.ctx fm m t) enc.ctx.g = true) (w : List (Tok Nat P)) :
    ∃ r cf, runCfg enc.ctx.g (Driver.autoOfTable t) (Halt.stepBound (Assemble.certOf enc.ctx fm m t) enc.ctx.g w.length)
        ⟨[(Driver.autoOfTable t).start], [], w⟩ = some (r, cf) ∧
      r ≠ .panic ∧ ((∃ tr, r = .ok tr) ↔ ∃ tr : Tree Nat P, WF enc.ctx.g tr (.n enc.ctx.g.start) ∧ tr.yield = w) :=
  Universal.emitted_parser_decides (Encode.encode_ok he) hm ht fm hcert w

/-- the generic statement behind it: any driver over any table (`Valid.Cert`) with a checked potential stops on
every input within `(|w|+1)·(cc + max φ + 1)` steps -/
theorem C01_potential_halts {P : Type} (C : Valid.Cert) (g : Grammar Nat Nat) (cc : Nat) (φ : Halt.Pot)
    (h : Halt.haltsB C g cc φ = true) (w : List (Tok Nat P)) :
    ∃ r, runCfg g (Valid.mkAuto C) ((w.length + 1) * Halt.K cc φ) ⟨[C.start], [], w⟩ = some r :=
  Halt.run_halts h w

/-- the same with the sharper certificate `Halt.certifiedF` — for every lookahead and every transition `v → s`
of the table, the run of reductions on the two-element stack `[s, v]` ends (non-reduce action, or a reduction
that pops the floor `v`) within the simulation fuel.  It is exact on the known part of the stack, so it fails
only if some stack the automaton can build makes the driver reduce forever.  Evaluated by the correspondence run
on the table of every accepted grammar (mode `halts`). -/
theorem C01_framed_decides {P : Type} (vf : VFile.File) (enc : Encode.Enc) (m : Machine.Machine) (t : Table.Table)
    (fuel : Nat) (he : Encode.encode vf = some enc) (hm : Machine.machineOf enc.ctx fuel = some (some m))
    (ht : Table.machineToTable enc.ctx m = .ok t) (fm : List Machine.FirstSet)
    (hcert : Halt.certifiedF (Assemble.certOf enc.ctx fm m t) enc.ctx.g = true) (w : List (Tok Nat P)) :
    ∃ fuel' r cf, runCfg enc.ctx.g (Driver.autoOfTable t) fuel' ⟨[(Driver.autoOfTable t).start], [], w⟩ = some (r, cf) ∧
      r ≠ .panic ∧ ((∃ tr, r = .ok tr) ↔ ∃ tr : Tree Nat P, WF enc.ctx.g tr (.n enc.ctx.g.start) ∧ tr.yield = w) :=
  Universal.emitted_parser_decidesF (Encode.encode_ok he) hm ht fm hcert w

/-- the generic statement behind it -/
theorem C01_framed_halts {P : Type} (C : Valid.Cert) (g : Grammar Nat Nat) (F : Nat)
    (h : Halt.haltsF C g F = true) (w : List (Tok Nat P)) :
    ∃ fuel r, runCfg g (Valid.mkAuto C) fuel ⟨[C.start], [], w⟩ = some r :=
  Halt.run_haltsF h w

end KikiVerif.C01

#print axioms KikiVerif.C01.C01_coding_faithful
#print axioms KikiVerif.C01.C01_certified_decides
#print axioms KikiVerif.C01.C01_potential_halts
#print axioms KikiVerif.C01.C01_framed_decides
#print axioms KikiVerif.C01.C01_framed_halts
#print axioms KikiVerif.C01.C01_every_grammar
#print axioms KikiVerif.C01.C01_generator_passes_validator
#print axioms KikiVerif.C01.C01_no_panic_and_sound
#print axioms KikiVerif.C01.C01_complete
#print axioms KikiVerif.C01.C01_accepts_iff
#print axioms KikiVerif.C01.C01_sentences_terminate
