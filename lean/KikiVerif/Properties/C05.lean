/-
C05 — the emitted module compiles for any legal user naming.
A theorem cannot say "rustc accepts"; what is proved is the hygiene that "for
every naming" needs: every chosen internal name is new, and they are pairwise distinct.
-/
import KikiVerif.Proofs.Names

namespace KikiVerif.C05
open KikiVerif.Emit KikiVerif.Text

/-- `create_unique_identifier` returns a name that was not in use and records it -/
theorem C05_fresh (pref : Str) (used : List Str) (n : Str) (used' : List Str)
    (h : createUniqueIdentifier pref used = some (n, used')) : n ∉ used ∧ used' = used ++ [n] :=
  createUniqueIdentifier_fresh h

/-- **hygiene of the twelve internal names**: they are pairwise distinct and none of them is an identifier the user
defined (nonterminal, terminal variant, terminal enum) — whatever the user's naming, including names equal to
the generator's preferred ones and their numbered neighbours -/
theorem C05_names_distinct (used0 : List Str) (n : Names) (h : chooseNames used0 = some n) :
    (Names.toList n).Nodup ∧ ∀ x ∈ Names.toList n, x ∉ used0 :=
  chooseAll_fresh _ _ _ (by rw [← chooseNames_eq, h]; rfl)

/-- the search for the twelve names always succeeds -/
theorem C05_names_exist (used0 : List Str) : ∃ n, chooseNames used0 = some n :=
  EmitTotal.chooseNames_some used0

end KikiVerif.C05

#print axioms KikiVerif.C05.C05_fresh
#print axioms KikiVerif.C05.C05_names_distinct
#print axioms KikiVerif.C05.C05_names_exist
