/-
C06 — emitted type definitions and parse signature mirror the declarations.
(names and order of the emitted items, start type and terminal enum of the `parse`
signature: `C06_items_and_signature`; the fields of every emitted type: `C06_fields`)
-/
import KikiVerif.Proofs.Emit

namespace KikiVerif.C06
open KikiVerif KikiVerif.Emit

def TypeDef.name : TypeDef → Str
  | .struct _ n _ => n
  | .enum _ n _ => n

def TypeDef.isStruct : TypeDef → Bool
  | .struct .. => true
  | .enum .. => false

def isStructDecl : VFile.Nonterminal → Bool
  | .struct _ => true
  | .enum _ => false

theorem typeDefOf_name (te : VFile.TermEnum) (n : VFile.Nonterminal) (d : TypeDef)
    (h : typeDefOf te n = some d) : TypeDef.name d = n.name ∧ TypeDef.isStruct d = isStructDecl n := by
  cases n <;> obtain ⟨b, _, rfl⟩ := Option.map_eq_some_iff.mp h <;> exact ⟨rfl, rfl⟩

/-- one public item per nonterminal, same names, same order, struct for struct and enum for enum;
the `parse` signature names the start type and the terminal enum -/
theorem C06_items_and_signature {f : VFile.File} {enc : Encode.Enc} {t : Table.Table} {sha : Str} {m : Module}
    (h : moduleOf f enc t sha = some m) :
    m.types.map TypeDef.name = f.nonterminals.map (·.name) ∧
    m.types.map TypeDef.isStruct = f.nonterminals.map isStructDecl ∧
    m.startType = f.start ∧ m.tenumName = f.tenum.name := by
  obtain ⟨_, _, h3, _, h5, _, _, h8, _⟩ := moduleOf_spec h
  exact ⟨List.map_of_mapM_eq_some h8 fun n _ d hd => (typeDefOf_name _ n d hd).1,
    List.map_of_mapM_eq_some h8 fun n _ d hd => (typeDefOf_name _ n d hd).2, h5, h3⟩

/-! ### fields: what each emitted item contains -/

open Ast in
/-- the Rust type of a field of symbol `s`: `Box<N>` for a nonterminal, the terminal's declared payload type
(looked up in the terminal enum) for a terminal -/
def SymTy (te : VFile.TermEnum) (s : SymId) (ty : Str) : Prop :=
  match s with
  | .n i => ty = L "Box<" ++ i.name ++ L ">"
  | .t i => te.getType i.name = some ty

theorem fieldType_symTy {te : VFile.TermEnum} {s : Ast.SymId} {ty : Str} (h : fieldType te s = some ty) : SymTy te s ty := by
  cases s with
  | n i => simp only [fieldType, Option.some.injEq] at h; exact h.symm
  | t i => exact h

open Ast in
/-- what the emitted field list of a fieldset is: unit-like when no field is used (`_` fields are omitted), else
the used fields in declaration order, named fields with their names, each with `Box<N>` or the terminal's
payload type -/
def BodyMirrors (te : VFile.TermEnum) : Fieldset → Body → Prop
  | .empty, b => b = .unit
  | .named fs, b =>
    (usedNamed fs = [] ∧ b = .unit) ∨
    (usedNamed fs ≠ [] ∧ ∃ r, b = .named r ∧ r.map (·.1) = (usedNamed fs).map (·.1) ∧
      ∀ (k : Nat) (p : Str × Str) (q : Str × SymId), r[k]? = some p → (usedNamed fs)[k]? = some q → SymTy te q.2 p.2)
  | .tuple fs, b =>
    (usedTuple fs = [] ∧ b = .unit) ∨
    (usedTuple fs ≠ [] ∧ ∃ r, b = .tuple r ∧ r.length = (usedTuple fs).length ∧
      ∀ (k : Nat) (p : Str) (q : SymId), r[k]? = some p → (usedTuple fs)[k]? = some q → SymTy te q p)

open Ast in
theorem usedNamed_nil_iff (fs : List NamedField) : usedNamed fs = [] ↔ fs.any NamedField.isUsed = false := by
  simp only [usedNamed, List.filterMap_eq_nil_iff, List.any_eq_false, NamedField.isUsed]
  exact forall₂_congr fun f _ => by cases f.name <;> simp

open Ast in
theorem usedTuple_nil_iff (fs : List TupleField) : usedTuple fs = [] ↔ fs.any TupleField.isUsed = false := by
  simp only [usedTuple, List.filterMap_eq_nil_iff, List.any_eq_false]
  exact forall₂_congr fun f _ => by cases f <;> simp [TupleField.isUsed]

theorem bodyOf_mirrors {te : VFile.TermEnum} {fs : Ast.Fieldset} {b : Body} (h : bodyOf te fs = some b) :
    BodyMirrors te fs b := by
  cases fs with
  | empty => exact (Option.some.inj h).symm
  | named flds =>
    rw [bodyOf, namedFieldTypes_eq] at h
    cases hu : flds.any Ast.NamedField.isUsed with
    | false =>
      rw [hu] at h
      exact .inl ⟨(usedNamed_nil_iff flds).mpr hu, (Option.some.inj h).symm⟩
    | true =>
      rw [hu] at h
      obtain ⟨r, hr, rfl⟩ := Option.map_eq_some_iff.mp h
      refine .inr ⟨mt (usedNamed_nil_iff flds).mp (by rw [hu]; nofun), r, rfl, List.map_of_mapM_eq_some hr ?_,
        fun k p q hp hq => ?_⟩
      · intro q _ p hp
        obtain ⟨ty, _, rfl⟩ := Option.map_eq_some_iff.mp hp
        rfl
      · obtain ⟨ty, hty, rfl⟩ := Option.map_eq_some_iff.mp (List.getElem?_eq_of_mapM_eq_some hr hq hp)
        exact fieldType_symTy hty
  | tuple flds =>
    rw [bodyOf, tupleFieldTypes_eq] at h
    cases hu : flds.any Ast.TupleField.isUsed with
    | false =>
      rw [hu] at h
      exact .inl ⟨(usedTuple_nil_iff flds).mpr hu, (Option.some.inj h).symm⟩
    | true =>
      rw [hu] at h
      obtain ⟨r, hr, rfl⟩ := Option.map_eq_some_iff.mp h
      exact .inr ⟨mt (usedTuple_nil_iff flds).mp (by rw [hu]; nofun), r, rfl, List.length_of_mapM_eq_some hr,
        fun k p q hp hq => fieldType_symTy (List.getElem?_eq_of_mapM_eq_some hr hq hp)⟩

/-- an emitted item mirrors its declaration, field by field -/
def DefMirrors (te : VFile.TermEnum) : VFile.Nonterminal → TypeDef → Prop
  | .struct s, .struct _ name body => name = s.name.name ∧ BodyMirrors te s.fieldset body
  | .enum e, .enum _ name vs =>
    name = e.name.name ∧ vs.map (·.1) = e.variants.map (·.name.name) ∧
    ∀ (k : Nat) (v : Ast.Variant) (p : Str × Body), e.variants[k]? = some v → vs[k]? = some p → BodyMirrors te v.fieldset p.2
  | _, _ => False

theorem typeDefOf_mirrors {te : VFile.TermEnum} {n : VFile.Nonterminal} {d : TypeDef} (h : typeDefOf te n = some d) :
    DefMirrors te n d := by
  cases n with
  | struct s =>
    obtain ⟨b, hb, rfl⟩ := Option.map_eq_some_iff.mp h
    exact ⟨rfl, bodyOf_mirrors hb⟩
  | enum e =>
    obtain ⟨vs, hvs, rfl⟩ := Option.map_eq_some_iff.mp h
    refine ⟨rfl, List.map_of_mapM_eq_some hvs ?_, fun k v p hv hp => ?_⟩
    · intro v _ p hp
      obtain ⟨b, _, rfl⟩ := Option.map_eq_some_iff.mp hp
      rfl
    · obtain ⟨b, hb, rfl⟩ := Option.map_eq_some_iff.mp (List.getElem?_eq_of_mapM_eq_some hvs hv hp)
      exact bodyOf_mirrors hb

/-- **C06, field level**: the `k`-th emitted item mirrors the `k`-th declaration: same name; a struct's field list,
and each enum variant's (same variant names, same order), is unit-like when no field is used and otherwise
lists exactly the used fields in declaration order — `_` fields omitted, named fields under their names —
typed `Box<N>` for a nonterminal `N` and with the terminal's declared payload type for a terminal -/
theorem C06_fields {f : VFile.File} {enc : Encode.Enc} {t : Table.Table} {sha : Str} {m : Module}
    (h : moduleOf f enc t sha = some m) (k : Nat) (n : VFile.Nonterminal) (d : TypeDef)
    (hn : f.nonterminals[k]? = some n) (hd : m.types[k]? = some d) : DefMirrors f.tenum n d :=
  typeDefOf_mirrors (List.getElem?_eq_of_mapM_eq_some (moduleOf_spec h).2.2.2.2.2.2.2.1 hn hd)

end KikiVerif.C06

#print axioms KikiVerif.C06.C06_items_and_signature
#print axioms KikiVerif.C06.C06_fields
