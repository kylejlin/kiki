/-
C15 — the emitted header carries the source hash; get_grammar_hash reads it back.

`C15_spec`: for every text, `get_grammar_hash` returns the remainder (after one
`// @sha256 `) of the first line starting with `// @sha256 ` inside the leading
block of `//` lines, and `None` if there is none.
-/
import KikiVerif.Model.Hash
import KikiVerif.Model.Emit

namespace KikiVerif.C15
open KikiVerif KikiVerif.Hash KikiVerif.Text

/-- the statement of the property, written with `takeWhile` / `find?` -/
def specHash (text : Str) : Option Str :=
  let block := (lines text).takeWhile (fun l => startsWith l "//".toList)
  (block.find? (fun l => startsWith l hashPrefix)).map (fun l => l.drop hashPrefix.length)

theorem stripPrefix_eq (l p : Str) :
    stripPrefix l p = if startsWith l p then some (l.drop p.length) else none := by
  fun_induction stripPrefix l p <;> simp_all [startsWith]

theorem scan_cons (l : Str) (ls : List Str) : scan (l :: ls) =
    if !startsWith l "//".toList then none else match stripPrefix l hashPrefix with
      | some h => some h
      | none => scan ls := rfl

theorem scan_eq (ls : List Str) :
    scan ls = ((ls.takeWhile (fun l => startsWith l "//".toList)).find? (fun l => startsWith l hashPrefix)).map
      (fun l => l.drop hashPrefix.length) := by
  induction ls with
  | nil => rfl
  | cons l ls ih =>
    rw [scan_cons, stripPrefix_eq, List.takeWhile_cons, ih]
    generalize "//".toList = sl
    by_cases h : startsWith l sl = true <;> by_cases h2 : startsWith l hashPrefix = true <;> simp [h, h2]

/-- **C15 (i)**: `get_grammar_hash` is the `takeWhile` / `find?` specification, for every text -/
theorem C15_spec (text : Str) : getGrammarHash text = specHash text := by
  unfold getGrammarHash specHash
  exact scan_eq _

/-- non-vacuity, and the repeated-prefix case that `trim_start_matches` got wrong -/
example : getGrammarHash "// a\n// @sha256 // @sha256 abc\n// @sha256 x\ncode".toList = some "// @sha256 abc".toList := by
  rw [String.toList_ofList, String.toList_ofList]
  decide
example : getGrammarHash "// a\n\n// @sha256 abc".toList = none := by
  rw [String.toList_ofList]
  decide

theorem linesAux_line : ∀ (l rest acc : Str), (∀ c ∈ l, c ≠ '\n') →
    linesAux (l ++ '\n' :: rest) acc = (stripCr (l.reverse ++ acc)).reverse :: linesAux rest []
  | [], _, _, _ => by simp [linesAux]
  | c :: l, rest, acc, h => by
    have hc : c ≠ '\n' := h c List.mem_cons_self
    simp [linesAux, hc, linesAux_line l rest (c :: acc) fun d hd => h d (List.mem_cons_of_mem _ hd)]

theorem lines_line (l rest : Str) (h : ∀ c ∈ l, c ≠ '\n' ∧ c ≠ '\r') :
    lines (l ++ '\n' :: rest) = l :: lines rest := by
  have : stripCr l.reverse = l.reverse := by
    unfold stripCr
    split
    · rename_i acc heq
      exact absurd rfl (h '\r' (List.mem_reverse.mp (heq ▸ List.mem_cons_self))).2
    · rfl
  rw [lines, linesAux_line l rest [] fun c hc => (h c hc).1, List.append_nil, this, List.reverse_reverse]
  rfl

theorem lines_lines (tail : Str) : ∀ ls : List Str, (∀ l ∈ ls, ∀ c ∈ l, c ≠ '\n' ∧ c ≠ '\r') →
    lines ((ls.map (· ++ ['\n'])).flatten ++ tail) = ls ++ lines tail
  | [], _ => rfl
  | l :: ls, h => by
    rw [List.map_cons, List.flatten_cons, List.append_assoc, List.append_assoc, List.singleton_append,
      lines_line l _ (h l List.mem_cons_self), lines_lines tail ls fun l' hl' => h l' (List.mem_cons_of_mem _ hl')]
    rfl

theorem stripPrefix_append (p x : Str) : stripPrefix (p ++ x) p = some x := by
  induction p with
  | nil => cases x <;> rfl
  | cons c cs ih => simp [stripPrefix, ih]

/-- the five comment lines in front of the hash line -/
def headLines : List Str :=
  ["// This code was generated by Kiki.".toList,
   "// Kiki is an open-source minimalist parser generator for Rust.".toList,
   "// You can read more at https://crates.io/crates/kiki".toList,
   "//".toList,
   "// This code was generated from a grammar with the following hash:".toList]

/- Evaluating `"…".toList` decodes the literal's UTF-8 bytes, which is dear in the kernel. Rewriting with
`String.toList_ofList` instead unifies the literal with `String.ofList [c₁, …]`, which costs nothing. -/

theorem headerBefore_eq : Emit.headerBefore = (headLines.map (· ++ ['\n'])).flatten ++ hashPrefix := by
  unfold Emit.headerBefore Emit.L headLines hashPrefix
  repeat rw [String.toList_ofList]
  rfl

theorem headerAfter_eq : ∃ rest, Emit.headerAfter = '\n' :: rest := by
  unfold Emit.headerAfter Emit.L
  rw [String.toList_ofList]
  exact ⟨_, rfl⟩

theorem slashes : "//".toList = ['/', '/'] := String.toList_ofList

theorem hashPrefix_eq : hashPrefix = '/' :: '/' :: " @sha256 ".toList := by
  unfold hashPrefix
  repeat rw [String.toList_ofList]

theorem hashPrefix_chars : ∀ c ∈ hashPrefix, c ≠ '\n' ∧ c ≠ '\r' := by
  unfold hashPrefix
  rw [String.toList_ofList]
  decide

theorem headLines_ok : ∀ l ∈ headLines,
    (∀ c ∈ l, c ≠ '\n' ∧ c ≠ '\r') ∧ startsWith l "//".toList = true ∧ stripPrefix l hashPrefix = none := by
  unfold headLines hashPrefix
  repeat rw [String.toList_ofList]
  decide

theorem scan_skip (rest : List Str) : ∀ ls : List Str,
    (∀ l ∈ ls, startsWith l "//".toList = true ∧ stripPrefix l hashPrefix = none) → scan (ls ++ rest) = scan rest
  | [], _ => rfl
  | l :: ls, h => by
    rw [List.cons_append, scan_cons, (h l List.mem_cons_self).1, (h l List.mem_cons_self).2]
    exact scan_skip rest ls fun l' hl' => h l' (List.mem_cons_of_mem _ hl')

/-- **C15 (ii)**: `get_grammar_hash` applied to emitted text returns exactly the digest in the header
(the digest is a parameter; the only assumption is that it contains no line break — a SHA-256 in
hexadecimal does not) -/
theorem C15_roundtrip (m : Emit.Module) (hsha : ∀ c ∈ m.sha, c ≠ '\n' ∧ c ≠ '\r') :
    getGrammarHash (Emit.render m) = some m.sha := by
  obtain ⟨rest, hrest⟩ := headerAfter_eq
  -- the header is six complete lines: the five comment lines and the hash line
  have e : Emit.render m =
      ((headLines ++ [hashPrefix ++ m.sha]).map (· ++ ['\n'])).flatten ++ (rest ++ Emit.body m) := by
    simp [Emit.render, Emit.header, headerBefore_eq, hrest]
  have clean : ∀ l ∈ headLines ++ [hashPrefix ++ m.sha], ∀ c ∈ l, c ≠ '\n' ∧ c ≠ '\r' := by
    simp only [List.mem_append, List.mem_singleton]
    rintro l (hl | rfl) c hc
    · exact (headLines_ok l hl).1 c hc
    · exact (List.mem_append.mp hc).elim (hashPrefix_chars c) (hsha c)
  have hs : startsWith (hashPrefix ++ m.sha) "//".toList = true := by
    rw [hashPrefix_eq, slashes]; rfl
  rw [getGrammarHash, e, lines_lines _ _ clean, List.append_assoc, scan_skip _ _ fun l hl => (headLines_ok l hl).2,
    List.singleton_append, scan_cons, hs, stripPrefix_append]
  rfl

/-- **C15 (iii)**, the freshness test of `build.rs`: for output generated from a source with digest `d₀`,
the stored digest equals the digest `d` of the current grammar file iff `d₀ = d` -/
theorem C15_fresh (m : Emit.Module) (hsha : ∀ c ∈ m.sha, c ≠ '\n' ∧ c ≠ '\r') (d : Str) :
    getGrammarHash (Emit.render m) = some d ↔ m.sha = d := by
  rw [C15_roundtrip m hsha, Option.some.injEq]

end KikiVerif.C15

#print axioms KikiVerif.C15.C15_spec
#print axioms KikiVerif.C15.C15_roundtrip
#print axioms KikiVerif.C15.C15_fresh
