/-
C07 — generate is total: no panic, abort or hang on any input text.
Proved stage by stage (tokenizer, front-end parser and its error conversion, `cst_to_ast`, validation, symbol
coding, generator loops, table construction, emission) and end to end over the model `Generate.stages` of
`lib.rs::generate` (`C07_generate_no_panic`, `C07_generate_total`).  That the model's stages are those of the
implementation is checked by the correspondence run (outcome class of every stage under `catch_unwind` with a
watchdog, compared with the model, whose panics are explicit).
-/
import KikiVerif.Model.Tokenize
import KikiVerif.Model.Emit
import KikiVerif.Properties.C08
import KikiVerif.Properties.C09
import KikiVerif.Properties.C10
import KikiVerif.Proofs.NoPanic
import KikiVerif.Proofs.TermBuild
import KikiVerif.Proofs.Pipeline
import KikiVerif.Proofs.Encode
import KikiVerif.Proofs.Total

namespace KikiVerif.C07
open KikiVerif KikiVerif.Tokenize KikiVerif.Text

theorem bracketScan_no_panic : ∀ (cs : Str) (i : Nat) (st : List Char) (s : String),
    bracketScan cs i st ≠ .panic s := by
  intro cs
  induction cs with
  | nil => intro i st s h; simp [bracketScan] at h
  | cons c cs ih =>
    intro i st s
    simp only [bracketScan]
    repeat' split
    all_goals first | exact ih _ _ _ | nofun

theorem C07_handleMain_no_panic (tk : Tk) (c : Char) (i : Nat) (s : String) :
    handleMain tk c i ≠ .panic s := by
  have ite_ne {p : Prop} [Decidable p] {a b : Res Tk} (ha : a ≠ .panic s) (hb : b ≠ .panic s) :
      (if p then a else b) ≠ .panic s := by split <;> assumption
  unfold handleMain
  refine ite_ne nofun (ite_ne nofun (ite_ne nofun (ite_ne nofun (ite_ne nofun (ite_ne nofun ?_)))))
  split <;> nofun

theorem C07_tokenize_total (src : Str) :
    (∃ ts, Tokenize.tokenize src = .ok ts) ∨ (∃ j c, Tokenize.tokenize src = .err (.lex j c)) :=
  C08.C08_tokenize_total src

theorem C07_parse_no_panic (toks : List Token) (fuel : Nat) (out : FrontParse.ParseOut)
    (h : FrontParse.parse toks fuel = some out) : (match out with | .panic => False | _ => True) :=
  (C09.C09_parse_correct toks fuel out h).1

theorem C07_cst_to_ast_total (toks : List Token) (fuel : Nat) (t : FrontParse.CTree)
    (h : FrontParse.parse toks fuel = some (.ok t)) : ∃ ast, FrontParse.cstToAst t = some ast := by
  obtain ⟨ast, h1, _⟩ := C09.C09_flatten toks fuel t h
  exact ⟨ast, h1⟩

/-- validation has no panicking path -/
theorem C07_validate_no_panic (f : Ast.File) (s : String) : Validate.validateAst f ≠ .panic s :=
  C10.C10_no_panic f s

/-- **the generator stages never panic, every validated file**: once the grammar is coded, neither
`validated_ast_to_machine` (FIRST-map `unwrap`s, `index_map[i]`) nor `machine_to_table` (`rules[i]`,
`get_symbol_ident`, `get_shift_dest(..).unwrap()`, the "Impossible: goto conflict", table index range checks)
can panic: the first returns a machine or runs out of the model's fuel, the second returns a table or a conflict -/
theorem C07_generator_no_panic (vf : VFile.File) (enc : Encode.Enc) (he : Encode.encode vf = some enc) (fuel : Nat) :
    Machine.machineOf enc.ctx fuel ≠ some none ∧
    ∀ m, Machine.machineOf enc.ctx fuel = some (some m) → ∀ site, Table.machineToTable enc.ctx m ≠ .panic site :=
  Pipeline.generator_no_panic vf enc he fuel

/-- the conversion of an unexpected token into `KikiErr::Parse` cannot panic -/
theorem C07_parse_error_no_panic (src : Str) (toks : List Token) (htok : Tokenize.tokenize src = .ok toks) (fuel : Nat)
    (idx : Option Nat) (h : FrontParse.parse toks fuel = some (.unexpected idx)) :
    ∃ e, FrontParse.unexpectedToErr src (idx.bind (toks[·]?)) = .ok e :=
  Pipeline.parse_error_ok src toks htok fuel idx h

/-- **the generator stages are total, every validated file**: once the grammar is coded, `validated_ast_to_machine`
*terminates* — the FIRST fixpoint within `nN·(nT+1)` changing passes, every closure within the number of
well-formed items times the implication bound, the worklist within a potential bounded by `2^C·(U+1)` (at most
`2^C` states since no two share a core, at most `U` items per state) — and returns a machine; `machine_to_table`
(structural recursion) then returns a table or a genuine conflict.  `genFuel` is the explicit bound: with any
fuel from there on the model's loops never run out, i.e. the unbounded Rust loops stop. -/
theorem C07_generator_total (vf : VFile.File) (enc : Encode.Enc) (he : Encode.encode vf = some enc) (fuel : Nat)
    (hf : Machine.genFuel enc.ctx ≤ fuel) :
    ∃ m, Machine.machineOf enc.ctx fuel = some (some m) ∧
      ((∃ t, Table.machineToTable enc.ctx m = .ok t) ∨
       (∃ s e n, Table.machineToTable enc.ctx m = .conflict s e n ∧ Table.Genuine enc.ctx m s e n)) := by
  have ok := Encode.encode_ok he
  obtain ⟨m, hm⟩ := Machine.machineOf_terminates ok fuel hf
  obtain ⟨fm, _, mok⟩ := Machine.machineOf_ok ok.terms hm
  exact ⟨m, hm, (Machine.table_or_conflict ok mok).imp_left And.left⟩

/-- **C07, no panic, end to end**: for every source text (any UTF-8 string: the model works on `List Char` with
byte offsets) and every fuel, the pipeline `generate` is made of never stops at a panic site.  `Generate.stages`
mirrors `lib.rs::generate` stage by stage and has an explicit `panic` outcome at every `unwrap`, `expect`,
slice and index of the Rust code; the correspondence run checks on every generated input that model and
implementation agree on the outcome class and on every intermediate value. -/
theorem C07_generate_no_panic (src sha : Str) (fuel : Nat) (site : String) :
    (Generate.stages src sha fuel).stop ≠ .panic site :=
  Pipeline.stages_no_panic src sha fuel site

/-- after validation the symbol coding and the text emitter cannot fail (for files whose terminal names contain
no `$` — every file that comes from the tokenizer) -/
theorem C07_emission_total {f : Ast.File} {vf : VFile.File} (hv : Validate.validateAst f = .ok vf)
    (hdf : EmitTotal.DollarFree f) :
    (∃ enc, Encode.encode vf = some enc) ∧ ∀ enc t sha, ∃ m, Emit.moduleOf vf enc t sha = some m :=
  ⟨EmitTotal.encode_total hv hdf, fun enc t sha => EmitTotal.moduleOf_total hv hdf enc t sha⟩

/-- the front-end parse loop stops on every token sequence (no fuel left to chance) -/
theorem C07_front_parse_halts (toks : List Token) (k : Nat) :
    ∃ out, FrontParse.parse toks (HaltFront.parseBound toks.length + k) = some out :=
  HaltFront.front_parse_halts toks k

/-- **`generate` is total, every source text**: there is an amount of fuel (front-end parse bound plus
`genFuel` of the coded grammar) from which on the pipeline — tokenizer, front-end parser, `cst_to_ast`,
validation, FIRST fixpoint, closures, LALR worklist, table construction, emission — ends in exactly one of:
the emitted text, a `KikiErr`, or a table conflict; it neither panics nor loops -/
theorem C07_generate_total (src sha : Str) :
    ∃ F, ∀ fuel, F ≤ fuel →
      match (Generate.stages src sha fuel).stop with
      | .done => True
      | .err _ => True
      | .conflict _ _ _ => True
      | .panic _ => False
      | .timeout _ => False :=
  HaltFront.stages_total src sha

end KikiVerif.C07

#print axioms KikiVerif.C07.C07_generate_total
#print axioms KikiVerif.C07.C07_front_parse_halts
#print axioms KikiVerif.C07.bracketScan_no_panic
#print axioms KikiVerif.C07.C07_handleMain_no_panic
#print axioms KikiVerif.C07.C07_tokenize_total
#print axioms KikiVerif.C07.C07_parse_no_panic
#print axioms KikiVerif.C07.C07_cst_to_ast_total
#print axioms KikiVerif.C07.C07_validate_no_panic
#print axioms KikiVerif.C07.C07_generator_no_panic
#print axioms KikiVerif.C07.C07_parse_error_no_panic
#print axioms KikiVerif.C07.C07_generator_total
#print axioms KikiVerif.C07.C07_generate_no_panic
#print axioms KikiVerif.C07.C07_emission_total
