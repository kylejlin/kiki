/-
Model of `kiki/src/pipeline/tokenize.rs`, one Rust function per Lean function,
same names (snake_case → camelCase).  Byte indices are explicit; every slice of
the source goes through `Text.sliceBytes`, whose `none` is the Rust panic.
-/
import KikiVerif.Model.Text

namespace KikiVerif

inductive Sym' where
  | t (name : Str)
  | n (name : Str)
deriving DecidableEq, Repr

/-- `data::KikiErr`, without the table-conflict payload (added in `Generate`). -/
inductive KErr where
  | lex (i : Nat) (c : Option Char)
  | parse (a : Nat) (content : Str) (b : Nat)
  | noStartSymbol
  | multipleStartSymbols (ps : List Nat)
  | noTerminalEnum
  | multipleTerminalEnums (ps : List Nat)
  | notUppercase (p : Nat)
  | notLowercase (p : Nat)
  | nameClash (name : Str) (p q : Nat)
  | variantNameClash (name : Str) (p q : Nat)
  | variantSeqClash (syms : List Sym') (p q : Nat)
  | undefinedNonterminal (name : Str) (p : Nat)
  | undefinedTerminal (name : Str) (p : Nat)
deriving DecidableEq, Repr

/-- Outcome of a modelled computation: a value, a `KikiErr`, or a Rust panic
(with the site as payload). -/
inductive Res (α : Type) where
  | ok (a : α)
  | err (e : KErr)
  | panic (site : String)
deriving Repr

namespace Res
@[inline] def bind {α β} (r : Res α) (f : α → Res β) : Res β :=
  match r with
  | .ok a => f a
  | .err e => .err e
  | .panic s => .panic s
instance : Monad Res where
  pure := .ok
  bind := bind
def ofOption {α} (site : String) : Option α → Res α
  | some a => .ok a
  | none => .panic site
end Res

/-- `parser::Token` (payloads inlined) -/
inductive Token where
  | underscore (p : Nat)
  | ident (name : Str) (p : Nat)
  | termIdent (name : Str) (dollarlessPos : Nat)
  | attr (src : Str) (p : Nat)
  | startKw (p : Nat)
  | structKw (p : Nat)
  | enumKw (p : Nat)
  | terminalKw (p : Nat)
  | colon (p : Nat)
  | dcolon (p : Nat)
  | comma (p : Nat)
  | lparen (p : Nat)
  | rparen (p : Nat)
  | lcurly (p : Nat)
  | rcurly (p : Nat)
  | langle (p : Nat)
  | rangle (p : Nat)
deriving DecidableEq, Repr

namespace Tokenize
open Text

inductive State where
  | main
  | slash (i : Nat)
  | comment
  | ident (s e : Nat)
  | dollar (i : Nat)
  | termIdent (s e : Nat)
  | colon (i : Nat)
  | pound (i : Nat)
  | attr (s cnt e : Nat)
deriving DecidableEq, Repr

structure Tk where
  out : List Token        -- in order (Rust pushes at the end)
  state : State
deriving Repr

/-- `get_reserved_word_kind` + `get_reserved_word_token` -/
def reservedWordToken (name : Str) (p : Nat) : Option Token :=
  if name = "_".toList then some (.underscore p)
  else if name = "start".toList then some (.startKw p)
  else if name = "struct".toList then some (.structKw p)
  else if name = "enum".toList then some (.enumKw p)
  else if name = "terminal".toList then some (.terminalKw p)
  else none

/-- `get_single_char_punctuation_kind` + `get_single_char_punctuation_token` -/
def punctToken (c : Char) (p : Nat) : Option Token :=
  if c = ':' then some (.colon p)
  else if c = ',' then some (.comma p)
  else if c = '(' then some (.lparen p)
  else if c = ')' then some (.rparen p)
  else if c = '{' then some (.lcurly p)
  else if c = '}' then some (.rcurly p)
  else if c = '<' then some (.langle p)
  else if c = '>' then some (.rangle p)
  else none

def isOpener (c : Char) : Bool := c = '(' || c = '[' || c = '{'
def isCloser (c : Char) : Bool := c = ')' || c = ']' || c = '}'
def bracketsMatch (o c : Char) : Bool :=
  (o = '(' && c = ')') || (o = '[' && c = ']') || (o = '{' && c = '}')

/-- the loop of `assert_outer_attribute_brackets_match` over the chars of the
slice; `i` is the absolute byte index of the next char -/
def bracketScan : Str → Nat → List Char → Res Unit
  | [], _, _ => .ok ()
  | c :: cs, i, stack =>
    if isOpener c then bracketScan cs (i + clen c) (c :: stack)
    else if isCloser c then
      match stack with
      | [] => .err (.lex i (some c))
      | top :: stack' =>
        if bracketsMatch top c then bracketScan cs (i + clen c) stack'
        else .err (.lex i (some c))
    else bracketScan cs (i + clen c) stack

/-- `assert_outer_attribute_brackets_match` -/
def assertBrackets (src : Str) (start e : Nat) : Res Unit := do
  let sl ← Res.ofOption "tokenize.rs:assert_outer_attribute_brackets_match slice" (sliceBytes src (start + 1) e)
  bracketScan sl (start + 1) []

/-- `finish_outer_attribute` -/
def finishOuterAttribute (src : Str) (tk : Tk) (start e : Nat) : Res Tk := do
  assertBrackets src start e
  let sl ← Res.ofOption "tokenize.rs:finish_outer_attribute slice" (sliceBytes src start e)
  pure { out := tk.out ++ [.attr sl start], state := .main }

/-- `DollarlessTerminalName::remove_dollars` -/
def removeDollars (s : Str) : Str := s.filter (· != '$')

/-- `push_pending_token_and_reset_state` -/
def pushPending (src : Str) (tk : Tk) (current : Option Char) (currentIndex : Nat) : Res Tk :=
  match tk.state with
  | .main => .ok { tk with state := .main }
  | .slash i => .err (.lex i (some '/'))
  | .comment => .ok { tk with state := .main }
  | .ident s e => do
    let name ← Res.ofOption "tokenize.rs:push_pending ident slice" (sliceBytes src s e)
    match reservedWordToken name s with
    | some t => pure { out := tk.out ++ [t], state := .main }
    | none => pure { out := tk.out ++ [.ident name s], state := .main }
  | .dollar i => .err (.lex i (some '$'))
  | .termIdent s e => do
    let raw ← Res.ofOption "tokenize.rs:push_pending terminal ident slice" (sliceBytes src s e)
    let name := removeDollars raw
    if (reservedWordToken name 0).isSome then .err (.lex currentIndex current)
    else pure { out := tk.out ++ [.termIdent name (s + 1)], state := .main }
  | .colon i => .ok { out := tk.out ++ [.colon i], state := .main }
  | .pound i => .err (.lex i (some '#'))
  | .attr s _ e => do
    assertBrackets src s e
    .err (.lex currentIndex current)

/-- `handle_char_given_state_is_main` -/
def handleMain (tk : Tk) (c : Char) (i : Nat) : Res Tk :=
  if isWhitespace c then .ok tk
  else if c = '/' then .ok { tk with state := .slash i }
  else if isAsciiAlpha c || c = '_' then .ok { tk with state := .ident i (i + clen c) }
  else if c = '$' then .ok { tk with state := .dollar i }
  else if c = ':' then .ok { tk with state := .colon i }
  else if c = '#' then .ok { tk with state := .pound i }
  else match punctToken c i with
    | some t => .ok { tk with out := tk.out ++ [t] }
    | none => .err (.lex i (some c))

/-- `handle_char`.  After a successful `push_pending_token_and_reset_state` the
state is `Main`, so the recursive `self.handle_char(..)` in the Rust code is
`handle_char_given_state_is_main`. -/
def handleChar (src : Str) (tk : Tk) (c : Char) (i : Nat) : Res Tk :=
  match tk.state with
  | .main => handleMain tk c i
  | .slash s => if c = '/' then .ok { tk with state := .comment } else .err (.lex s (some '/'))
  | .comment => if c = '\n' then .ok { tk with state := .main } else .ok tk
  | .ident s e =>
    if isAsciiAlnum c || c = '_' then .ok { tk with state := .ident s (e + clen c) }
    else do let tk' ← pushPending src tk (some c) i; handleMain tk' c i
  | .dollar d =>
    if isAsciiAlpha c || c = '_' then .ok { tk with state := .termIdent d (d + 1 + clen c) }
    else .err (.lex d (some '$'))
  | .termIdent s e =>
    if isAsciiAlnum c || c = '_' then .ok { tk with state := .termIdent s (e + clen c) }
    else do let tk' ← pushPending src tk (some c) i; handleMain tk' c i
  | .colon s =>
    if c = ':' then .ok { out := tk.out ++ [.dcolon s], state := .main }
    else do let tk' ← pushPending src tk (some c) i; handleMain tk' c i
  | .pound s =>
    if c = '[' then .ok { tk with state := .attr s 1 (i + 1) }
    else do let tk' ← pushPending src tk (some c) i; handleMain tk' c i
  | .attr s cnt e =>
    if isOpener c then .ok { tk with state := .attr s (cnt + 1) (e + clen c) }
    else if isCloser c then
      if cnt = 1 then finishOuterAttribute src tk s (e + clen c)
      else .ok { tk with state := .attr s (cnt - 1) (e + clen c) }
    else if c = '\n' then do
      assertBrackets src s e
      .err (.lex i (some c))
    else .ok { tk with state := .attr s cnt (e + clen c) }

/-- the `for (c_index, c) in self.src.char_indices()` loop -/
def loop (src : Str) : Str → Nat → Tk → Res Tk
  | [], _, tk => .ok tk
  | c :: cs, i, tk =>
    match handleChar src tk c i with
    | .ok tk' => loop src cs (i + clen c) tk'
    | .err e => .err e
    | .panic s => .panic s

/-- `tokenize` -/
def tokenize (src : Str) : Res (List Token) :=
  match loop src src 0 { out := [], state := .main } with
  | .ok tk =>
    match pushPending src tk none (blen src) with
    | .ok tk' => .ok tk'.out
    | .err e => .err e
    | .panic s => .panic s
  | .err e => .err e
  | .panic s => .panic s

end Tokenize
end KikiVerif
