/-
From the validated file to the coded grammar (`Machine.Ctx`): a terminal's code
is the rank of its name among the declared terminal names in byte order, a
nonterminal's code the rank of its name among the declared nonterminal names.
See the header of `Machine.lean` for why ranks are used.

`encode` fails (`none`) exactly when the start symbol, the type a rule belongs
to or a symbol of a rule is not declared with the right kind — the situation in
which the Rust code would panic on a FIRST-map `unwrap` or a table-column `expect`.
-/
import KikiVerif.Model.Machine

namespace KikiVerif
namespace Encode
open Machine
open LR (Sym Rule Grammar)

structure Enc where
  ctx : Ctx
  tsorted : List Str        -- terminal names, ascending; code = index
  nsorted : List Str        -- nonterminal names, ascending; code = index
  tdecl : List Nat          -- codes of the terminals in declaration order
  ndecl : List Nat          -- codes of the nonterminals in declaration order

def sortNames (l : List Str) : List Str := (Oset.ofList l).raw

def codeSym (ts ns : List Str) : Ast.SymId → Option (Sym Nat Nat)
  | .t i => (ts.idxOf? i.name).map .t
  | .n i => (ns.idxOf? i.name).map .n

def codeRule (ts ns : List Str) (r : VFile.Rule) : Option (Rule Nat Nat) :=
  match ns.idxOf? r.ctor.typeName, r.fieldset.syms.mapM (codeSym ts ns) with
  | some lhs, some rhs => some ⟨lhs, rhs⟩
  | _, _ => none

def encode (f : VFile.File) : Option Enc :=
  let ts := sortNames (f.tenum.variants.map (·.name))
  let ns := sortNames (f.nonterminals.map (·.name))
  match f.rules.mapM (codeRule ts ns), ns.idxOf? f.start,
        (f.tenum.variants.map (·.name)).mapM ts.idxOf?, (f.nonterminals.map (·.name)).mapM ns.idxOf? with
  | some rules, some start, some tdecl, some ndecl =>
    some { ctx := { g := { rules := rules, start := start }, nT := ts.length, nN := ns.length },
           tsorted := ts, nsorted := ns, tdecl := tdecl, ndecl := ndecl }
  | _, _, _, _ => none

end Encode
end KikiVerif
