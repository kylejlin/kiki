/-
The documented lexical rules of `.kiki` files (USER_GUIDE.md, "Lexical
structure"; KikiErr::Lex doc comments) as a left-to-right *scanner
specification*: maximal munch is explicit (`span`), whitespace is skipped a
character at a time and a comment up to its line break (`commentLen`), attributes
are matched with a bracket stack.  It is
structurally unlike the character state machine of `tokenize.rs`; `C08` proves
the two equal.
-/
import KikiVerif.Model.Tokenize

namespace KikiVerif
namespace Spec
open Text

def isIdentStart (c : Char) : Bool := isAsciiAlpha c || c = '_'
def isIdentChar (c : Char) : Bool := isAsciiAlnum c || c = '_'

/-- the longest prefix satisfying `p`, and the rest -/
def span (p : Char → Bool) : Str → Str × Str
  | [] => ([], [])
  | c :: cs => if p c then let (a, b) := span p cs; (c :: a, b) else ([], c :: cs)

/-- the five reserved words -/
def reserved (w : Str) (p : Nat) : Option Token :=
  if w = "_".toList then some (.underscore p)
  else if w = "start".toList then some (.startKw p)
  else if w = "struct".toList then some (.structKw p)
  else if w = "enum".toList then some (.enumKw p)
  else if w = "terminal".toList then some (.terminalKw p)
  else none

/-- the single-character punctuation -/
def punct (c : Char) (p : Nat) : Option Token :=
  match c with
  | ':' => some (.colon p)
  | ',' => some (.comma p)
  | '(' => some (.lparen p)
  | ')' => some (.rparen p)
  | '{' => some (.lcurly p)
  | '}' => some (.rcurly p)
  | '<' => some (.langle p)
  | '>' => some (.rangle p)
  | _ => none

def closes (o c : Char) : Bool := (o = '(' && c = ')') || (o = '[' && c = ']') || (o = '{' && c = '}')
def isOpen (c : Char) : Bool := c = '(' || c = '[' || c = '{'
def isClose (c : Char) : Bool := c = ')' || c = ']' || c = '}'

/-- result of scanning the inside of an attribute -/
inductive AttrRes where
  | done (body : Str) (rest : Str)         -- `body` ends with the bracket that empties the stack
  | bad (index : Nat) (c : Option Char)    -- first offending character (or end of input)

/-- Scan after `#[` with a stack of open brackets (innermost first).  The attribute ends with the
bracket that closes the initial `[`.  A closing bracket of the wrong kind, a newline, or the end
of the input before that point is the first offending position. -/
def attrBody : Str → Nat → List Char → AttrRes
  | [], i, _ => .bad i none
  | c :: cs, i, stack =>
    if isOpen c then
      match attrBody cs (i + clen c) (c :: stack) with
      | .done b r => .done (c :: b) r
      | bad => bad
    else if isClose c then
      match stack with
      | [] => .bad i (some c)
      | o :: stack' =>
        if closes o c then
          if stack'.isEmpty then .done [c] cs
          else match attrBody cs (i + clen c) stack' with
            | .done b r => .done (c :: b) r
            | bad => bad
        else .bad i (some c)
    else if c = '\n' then .bad i (some c)
    else
      match attrBody cs (i + clen c) stack with
      | .done b r => .done (c :: b) r
      | bad => bad

/-- length of a `//` comment after the two slashes: everything up to and including the next
`\n` (or to the end of the input) -/
def commentLen : Str → Nat
  | [] => 0
  | c :: cs => if c = '\n' then 1 else 1 + commentLen cs

/-- what the scanner does at the head of the remaining input -/
inductive Step where
  | done                              -- end of input
  | skip (extra : Nat)                -- whitespace or a comment of `extra + 1` characters: no token
  | emit (t : Token) (extra : Nat)    -- one token made of the next `extra + 1` characters
  | bad (index : Nat) (c : Option Char)   -- lexical error: first offending position and character

/-- `cs` is the remaining input, starting at byte offset `i` of the source -/
def next (cs : Str) (i : Nat) : Step :=
  match cs with
  | [] => .done
  | c :: rest =>
    if isWhitespace c then .skip 0
    else if c = '/' then
      match rest with
      | d :: r => if d = '/' then .skip (1 + commentLen r) else .bad i (some '/')
      | [] => .bad i (some '/')
    else if isIdentStart c then
      -- maximal munch: the longest run of identifier characters
      let w := c :: (span isIdentChar rest).1
      .emit ((reserved w i).getD (.ident w i)) (span isIdentChar rest).1.length
    else if c = '$' then
      match rest with
      | d :: _ =>
        if isIdentStart d then
          let w := (span isIdentChar rest).1
          -- a reserved word after `$`: the error is just past it
          if (reserved w 0).isSome then .bad (i + 1 + blen w) (span isIdentChar rest).2.head?
          else .emit (.termIdent w (i + 1)) w.length
        else .bad i (some '$')
      | [] => .bad i (some '$')
    else if c = ':' then
      match rest with
      | d :: _ => if d = ':' then .emit (.dcolon i) 1 else .emit (.colon i) 0   -- maximal munch: `::` before `:`
      | [] => .emit (.colon i) 0
    else if c = '#' then
      match rest with
      | d :: r =>
        if d = '[' then
          match attrBody r (i + 2) ['['] with
          | .bad j ch => .bad j ch
          | .done body _ => .emit (.attr ('#' :: '[' :: body) i) (1 + body.length)
        else .bad i (some '#')
      | [] => .bad i (some '#')
    else match punct c i with
      | some tok => .emit tok 0
      | none => .bad i (some c)

theorem identStart_identChar {c : Char} (h : isIdentStart c = true) : isIdentChar c = true := by
  simp only [isIdentStart, isIdentChar, isAsciiAlnum, Bool.or_eq_true] at *
  rcases h with h | h
  · exact Or.inl (Or.inl h)
  · exact Or.inr h

theorem drop_succ_length_lt (cs : Str) (k : Nat) (h : cs ≠ []) : (cs.drop (k + 1)).length < cs.length := by
  cases cs with
  | nil => exact absurd rfl h
  | cons c cs => simp; omega

theorem next_ne_nil {cs : Str} {i : Nat} (h : next cs i ≠ .done) : cs ≠ [] := by
  intro e; subst e; exact h rfl

/-- the scanner: the tokens of `cs`, which starts at byte offset `i` of the source -/
def scanFrom (cs : Str) (i : Nat) : Res (List Token) :=
  match h : next cs i with
  | .done => .ok []
  | .bad j c => .err (.lex j c)
  | .skip k =>
    have : (cs.drop (k + 1)).length < cs.length := drop_succ_length_lt cs k (next_ne_nil (by rw [h]; simp))
    scanFrom (cs.drop (k + 1)) (i + blen (cs.take (k + 1)))
  | .emit t k =>
    have : (cs.drop (k + 1)).length < cs.length := drop_succ_length_lt cs k (next_ne_nil (by rw [h]; simp))
    match scanFrom (cs.drop (k + 1)) (i + blen (cs.take (k + 1))) with
    | .ok ts => .ok (t :: ts)
    | e => e
termination_by cs.length

theorem scanFrom_done {cs : Str} {i : Nat} (h : next cs i = .done) : scanFrom cs i = .ok [] := by
  rw [scanFrom]
  split <;> rename_i h' <;> rw [h] at h' <;> try cases h'

theorem scanFrom_bad {cs : Str} {i j : Nat} {c : Option Char} (h : next cs i = .bad j c) :
    scanFrom cs i = .err (.lex j c) := by
  rw [scanFrom]
  split <;> rename_i h' <;> rw [h] at h' <;> cases h'
  rfl

theorem scanFrom_skip {cs : Str} {i k : Nat} (h : next cs i = .skip k) :
    scanFrom cs i = scanFrom (cs.drop (k + 1)) (i + blen (cs.take (k + 1))) := by
  rw [scanFrom]
  split <;> rename_i h' <;> rw [h] at h' <;> try cases h'
  rfl

theorem scanFrom_emit {cs : Str} {i k : Nat} {t : Token} (h : next cs i = .emit t k) :
    scanFrom cs i =
      match scanFrom (cs.drop (k + 1)) (i + blen (cs.take (k + 1))) with
      | .ok ts => .ok (t :: ts)
      | e => e := by
  rw [scanFrom]
  split <;> rename_i h' <;> rw [h] at h' <;> try cases h'
  rfl

theorem next_whitespace (c : Char) (rest : Str) (i : Nat) (h : isWhitespace c = true) :
    next (c :: rest) i = .skip 0 := by
  unfold next
  simp only [h, if_true]

/-- the specification of `tokenize` -/
def scan (src : Str) : Res (List Token) := scanFrom src 0

end Spec
end KikiVerif
