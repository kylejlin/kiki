/-
The executable validator: `validB g nN C = true → Sound g (mkAuto C) ∧ Complete g (mkAuto C)`.

`C : Cert` is a candidate automaton given as plain data: item sets per state,
ACTION / GOTO rows, FIRST table.  All conditions are *local* and finite, so
`validB` can be
  * evaluated by the kernel (`decide +kernel`) over the tables extracted from
    `parser.rs` (C09), and
  * run (compiled) by the correspondence check on the machine and table the
    implementation produced for every generated grammar (C01–C03):
a per-grammar proof, for all token strings, that the emitted driver is right.
-/
import KikiVerif.LR.Snd
import KikiVerif.LR.Cert
import KikiVerif.Proofs.Basic

namespace KikiVerif
namespace Valid
open LR

def allStates (C : Cert) : List Nat := List.range C.states.length
def allLa (C : Cert) : List (Option Nat) := none :: (List.range C.nT).map some
def allSyms (C : Cert) (nN : Nat) : List (Sym Nat Nat) :=
  (List.range C.nT).map .t ++ (List.range nN).map .n

/-- FIRST table closed under the FIRST / nullable equations -/
def firstClosedB (g : Grammar Nat Nat) (ft : FirstTbl) : Bool :=
  g.rules.all fun r =>
    (seqTerms ft r.rhs).all (fun c => (ft.getD r.lhs ([], false)).1.contains c) &&
    (!seqNullable ft r.rhs || (ft.getD r.lhs ([], false)).2)

def hasCore (l : List It) (r : Option Nat) (d : Nat) : Bool := l.any fun it => it.rule == r && it.dot == d

/-- per-item checks -/
def itemB (g : Grammar Nat Nat) (C : Cert) (s : Nat) (it : It) : Bool :=
  match g.rhsOf it.rule with
  | none => false
  | some rhs =>
    decide (it.dot ≤ rhs.length) &&
    -- startDot
    (s != C.start || it.dot == 0) &&
    -- aug0
    (!(it.rule == none && it.dot == 0) || s == C.start) &&
    (match rhs[it.dot]? with
     | some X =>
       -- trans (with the same lookahead)
       (match C.delta s X with
        | some t => (C.items t).contains ⟨it.rule, it.dot + 1, it.la⟩
        | none => false) &&
       -- closure
       (match X with
        | .n B =>
          g.rules.zipIdx.all fun (rule', j) =>
            rule'.lhs != B ||
            (firstSeq C.first (rhs.drop (it.dot + 1)) it.la).all fun b => (C.items s).contains ⟨some j, 0, b⟩
        | .t _ => true)
     | none =>
       -- complete item: reduce / accept cell
       (match it.rule with
        | some j => C.act s it.la == .reduce j
        | none => it.la != none || C.act s none == .accept)) &&
    -- closure0: a dot-0 original item is demanded by an item of the same state
    (match it.rule, it.dot with
     | some j, 0 =>
       (match g.rules[j]? with
        | some rule => (C.items s).any fun it' =>
            match g.rhsOf it'.rule with
            | some rhs' => rhs'[it'.dot]? == some (.n rule.lhs)
            | none => false
        | none => false)
     | _, _ => true)

/-- per-transition checks (kernel, noBack) -/
def transB (g : Grammar Nat Nat) (C : Cert) (s : Nat) (X : Sym Nat Nat) : Bool :=
  match C.delta s X with
  | none => true
  | some t =>
    t != C.start &&
    (C.items t).all fun it =>
      match it.dot with
      | 0 => true
      | d + 1 =>
        match g.rhsOf it.rule with
        | none => false
        | some rhs => rhs[d]? == some X && hasCore (C.items s) it.rule d

/-- per-cell checks -/
def cellB (g : Grammar Nat Nat) (C : Cert) (s : Nat) (a : Option Nat) : Bool :=
  match C.act s a with
  | .shift _ => a != none
  | .reduce j =>
    (match g.rules[j]? with
     | some rule => hasCore (C.items s) (some j) rule.rhs.length
     | none => false)
  | .accept => a == none && hasCore (C.items s) none 1
  | .err => true

def validB (g : Grammar Nat Nat) (nN : Nat) (C : Cert) : Bool :=
  C.actions.length == C.states.length && C.gotos.length == C.states.length &&
  C.gotos.all (fun row => row.length ≤ nN) &&
  firstClosedB g C.first &&
  (C.items C.start).contains ⟨none, 0, none⟩ &&
  (allStates C).all (fun s =>
    (C.items s).all (itemB g C s) &&
    (allSyms C nN).all (transB g C s) &&
    (allLa C).all (cellB g C s))

theorem items_lt {C : Cert} {s : Nat} {it : It} (h : it ∈ C.items s) : s ∈ allStates C :=
  List.mem_range.mpr (List.lt_length_of_mem_getD_nil h)

theorem act_some_lt {C : Cert} {s c : Nat} (h : C.act s (some c) ≠ .err) : c < C.nT :=
  Decidable.by_contra fun hc => h (by simp [Cert.act, hc])

theorem act_ne_err_lt {C : Cert} {s : Nat} {a : Option Nat} (h : C.act s a ≠ .err)
    (hlen : C.actions.length = C.states.length) : s ∈ allStates C ∧ a ∈ allLa C := by
  refine ⟨List.mem_range.mpr (Nat.lt_of_not_le fun hs => h ?_), ?_⟩
  · cases a <;> simp [Cert.act, List.getElem?_eq_none (hlen ▸ hs)]
  · cases a with
    | none => exact List.mem_cons_self
    | some c => exact List.mem_cons_of_mem _ (List.mem_map.mpr ⟨c, List.mem_range.mpr (act_some_lt h), rfl⟩)

theorem delta_some_mem {C : Cert} {nN s t : Nat} {X : Sym Nat Nat} (h : C.delta s X = some t)
    (hlen : C.actions.length = C.states.length) (hglen : C.gotos.length = C.states.length)
    (hrows : ∀ row ∈ C.gotos, row.length ≤ nN) : s ∈ allStates C ∧ X ∈ allSyms C nN := by
  cases X with
  | t c =>
    have hne : C.act s (some c) ≠ .err := fun e => by simp [Cert.delta, e] at h
    exact ⟨(act_ne_err_lt hne hlen).1,
      List.mem_append_left _ (List.mem_map.mpr ⟨c, List.mem_range.mpr (act_some_lt hne), rfl⟩)⟩
  | n B =>
    obtain ⟨row, hrow, hcell⟩ := Option.bind_eq_some_iff.mp (Option.join_eq_some_iff.mp h)
    have hs := (List.getElem?_eq_some_iff.mp hrow).1
    have hB := (List.getElem?_eq_some_iff.mp hcell).1
    have := hrows row (List.mem_of_getElem? hrow)
    exact ⟨List.mem_range.mpr (by omega),
      List.mem_append_right _ (List.mem_map.mpr ⟨B, List.mem_range.mpr (by omega), rfl⟩)⟩

theorem hasCore_iff {l : List It} {r : Option Nat} {d : Nat} :
    hasCore l r d = true ↔ ∃ a, (⟨r, d, a⟩ : It) ∈ l := by
  simp only [hasCore, List.any_eq_true, Bool.and_eq_true, beq_iff_eq]
  exact ⟨fun ⟨⟨_, _, a⟩, hm, e1, e2⟩ => ⟨a, e1 ▸ e2 ▸ hm⟩, fun ⟨a, hm⟩ => ⟨_, hm, rfl, rfl⟩⟩

/-- what `itemB` checks of an item whose rule has right-hand side `rhs` -/
structure ItemOK (g : Grammar Nat Nat) (C : Cert) (s : Nat) (it : It) (rhs : List (Sym Nat Nat)) : Prop where
  dot : it.dot ≤ rhs.length
  startDot : s = C.start → it.dot = 0
  aug0 : it.rule = none → it.dot = 0 → s = C.start
  trans : ∀ X, rhs[it.dot]? = some X → ∃ t, C.delta s X = some t ∧ ⟨it.rule, it.dot + 1, it.la⟩ ∈ C.items t
  closure : ∀ B, rhs[it.dot]? = some (.n B) → ∀ j rule', g.rules[j]? = some rule' → rule'.lhs = B →
    ∀ b ∈ firstSeq C.first (rhs.drop (it.dot + 1)) it.la, ⟨some j, 0, b⟩ ∈ C.items s
  reduce : ∀ j, it.rule = some j → rhs[it.dot]? = none → C.act s it.la = .reduce j
  accept : it.rule = none → rhs[it.dot]? = none → it.la = none → C.act s none = .accept
  closure0 : ∀ j rule, it.rule = some j → it.dot = 0 → g.rules[j]? = some rule →
    ∃ it' ∈ C.items s, ∃ rhs', g.rhsOf it'.rule = some rhs' ∧ rhs'[it'.dot]? = some (.n rule.lhs)

theorem itemB_iff {g : Grammar Nat Nat} {C : Cert} {s : Nat} {it : It} :
    itemB g C s it = true ↔ ∃ rhs, g.rhsOf it.rule = some rhs ∧ ItemOK g C s it rhs := by
  unfold itemB
  cases hr : g.rhsOf it.rule with
  | none => simp
  | some rhs =>
    simp only [Option.some.injEq, exists_eq_left', Bool.and_eq_true, decide_eq_true_eq]
    constructor
    · rintro ⟨⟨⟨⟨hA, hB⟩, hC⟩, hD⟩, hE⟩
      refine ⟨hA, by simpa [Decidable.imp_iff_not_or] using hB, fun e1 e2 => by simpa [e1, e2] using hC,
        ?_, ?_, ?_, ?_, ?_⟩
      · intro X hX
        simp only [hX, Bool.and_eq_true] at hD
        cases hd : C.delta s X with
        | none => simp [hd] at hD
        | some t => exact ⟨t, rfl, by simpa [hd] using hD.1⟩
      · intro B hX j rule' hj hl b hb
        simp only [hX, Bool.and_eq_true, List.all_eq_true] at hD
        have := hD.2 (rule', j) (List.mem_zipIdx_iff_getElem?.mpr hj)
        simp only [Bool.or_eq_true, bne_iff_ne, ne_eq, List.all_eq_true, List.contains_iff_mem] at this
        exact this.resolve_left (fun h => h hl) b hb
      · intro j e hX
        simpa [hX, e] using hD
      · intro e hX e'
        simpa [hX, e, e'] using hD
      · intro j rule e1 e2 hj
        simp only [e1, e2, hj, List.any_eq_true] at hE
        obtain ⟨it', hm, hp⟩ := hE
        cases hr' : g.rhsOf it'.rule with
        | none => simp [hr'] at hp
        | some rhs' => exact ⟨it', hm, rhs', hr', by simpa [hr'] using hp⟩
    · intro h
      refine ⟨⟨⟨⟨h.dot, by simpa [Decidable.imp_iff_not_or] using h.startDot⟩, ?_⟩, ?_⟩, ?_⟩
      · by_cases e1 : it.rule = none
        · by_cases e2 : it.dot = 0
          · simp [h.aug0 e1 e2]
          · simp [e2]
        · simp [Option.isSome_iff_ne_none, e1]
      · cases hX : rhs[it.dot]? with
        | none =>
          simp only
          cases e : it.rule with
          | none => cases e' : it.la with
            | none => simpa using h.accept e hX e'
            | some _ => simp
          | some j => simpa [e] using h.reduce j e hX
        | some X =>
          obtain ⟨t, hd, hm⟩ := h.trans X hX
          simp only [hd, Bool.and_eq_true, List.contains_iff_mem]
          refine ⟨hm, ?_⟩
          cases X with
          | t _ => rfl
          | n B =>
            simp only [List.all_eq_true, Bool.or_eq_true, bne_iff_ne, ne_eq, List.contains_iff_mem]
            rintro ⟨rule', j⟩ hm
            by_cases hl : rule'.lhs = B
            · exact Or.inr (h.closure B hX j rule' (List.mem_zipIdx_iff_getElem?.mp hm) hl)
            · exact Or.inl hl
      · split
        · rename_i j e1 e2
          cases hj : g.rules[j]? with
          | none => simp [e1, Grammar.rhsOf, hj] at hr
          | some rule =>
            obtain ⟨it', hm, rhs', hr', hp⟩ := h.closure0 j rule e1 e2 hj
            simp only [List.any_eq_true]
            exact ⟨it', hm, by simp [hr', hp]⟩
        · rfl

theorem transB_iff {g : Grammar Nat Nat} {C : Cert} {s : Nat} {X : Sym Nat Nat} :
    transB g C s X = true ↔ ∀ t, C.delta s X = some t → t ≠ C.start ∧
      ∀ r d a, ⟨r, d + 1, a⟩ ∈ C.items t → ∃ rhs, g.rhsOf r = some rhs ∧ rhs[d]? = some X ∧ ∃ a', ⟨r, d, a'⟩ ∈ C.items s := by
  unfold transB
  cases C.delta s X with
  | none => simp
  | some t =>
    simp only [Bool.and_eq_true, bne_iff_ne, ne_eq, List.all_eq_true, Option.some.injEq, forall_eq']
    refine and_congr_right fun _ => ⟨fun h r d a hm => ?_, fun h it hm => ?_⟩
    · have := h _ hm
      simp only at this
      cases hr : g.rhsOf r with
      | none => simp [hr] at this
      | some rhs => simpa [hr, hasCore_iff] using this
    · obtain ⟨r, d, a⟩ := it
      cases d with
      | zero => rfl
      | succ d =>
        obtain ⟨rhs, hr, hX, hc⟩ := h r d a hm
        simp [hr, hX, hasCore_iff.mpr hc]

theorem cellB_iff {g : Grammar Nat Nat} {C : Cert} {s : Nat} {a : Option Nat} :
    cellB g C s a = true ↔ match C.act s a with
      | .shift _ => a ≠ none
      | .reduce j => ∃ rule, g.rules[j]? = some rule ∧ ∃ a', ⟨some j, rule.rhs.length, a'⟩ ∈ C.items s
      | .accept => a = none ∧ ∃ a', ⟨none, 1, a'⟩ ∈ C.items s
      | .err => True := by
  unfold cellB
  cases C.act s a with
  | reduce j => cases h : g.rules[j]? <;> simp [h, hasCore_iff]
  | _ => simp [hasCore_iff]

/-- `validB g nN C = true`, check by check: what `validB_sound` consumes and `Proofs/Assemble` provides -/
structure Checked (g : Grammar Nat Nat) (nN : Nat) (C : Cert) : Prop where
  alen : C.actions.length = C.states.length
  glen : C.gotos.length = C.states.length
  grows : ∀ row ∈ C.gotos, row.length ≤ nN
  first : firstClosedB g C.first = true
  start : (⟨none, 0, none⟩ : It) ∈ C.items C.start
  item : ∀ s it, it ∈ C.items s → itemB g C s it = true
  trans : ∀ s X, s ∈ allStates C → X ∈ allSyms C nN → transB g C s X = true
  cell : ∀ s a, s ∈ allStates C → a ∈ allLa C → cellB g C s a = true

theorem checked_of_validB {g : Grammar Nat Nat} {nN : Nat} {C : Cert} (h : validB g nN C = true) :
    Checked g nN C := by
  unfold validB at h
  simp only [Bool.and_eq_true, beq_iff_eq, List.all_eq_true, decide_eq_true_eq, List.contains_iff_mem] at h
  obtain ⟨⟨⟨⟨⟨h1, h2⟩, h3⟩, h4⟩, h5⟩, h6⟩ := h
  refine ⟨h1, h2, h3, ?_, h5, ?_, ?_, ?_⟩
  · exact h4
  · intro s it hm
    exact (h6 s (items_lt hm)).1.1 it hm
  · intro s X hs hX
    exact (h6 s hs).1.2 X hX
  · intro s a hs ha
    exact (h6 s hs).2 a ha

theorem mem_firstSeq_cons_t {ft : FirstTbl} {c : Nat} {xs : List (Sym Nat Nat)} {a : Option Nat} :
    firstSeq ft (.t c :: xs) a = [some c] := by
  simp [firstSeq, seqTerms, seqNullable]

theorem mem_first_aux (ts T : List Nat) (eps nl : Bool) (a b : Option Nat) :
    (b ∈ (ts ++ if eps = true then T else []).map some ++ (if (eps && nl) = true then [a] else [])) ↔
      b ∈ ts.map some ∨ (eps = true ∧ b ∈ T.map some ++ if nl = true then [a] else []) := by
  cases eps <;> simp

theorem mem_firstSeq_cons_n {ft : FirstTbl} {B : Nat} {xs : List (Sym Nat Nat)} {a b : Option Nat} :
    b ∈ firstSeq ft (.n B :: xs) a ↔
      b ∈ (ft.getD B ([], false)).1.map some ∨ ((ft.getD B ([], false)).2 = true ∧ b ∈ firstSeq ft xs a) := by
  simp only [firstSeq, seqTerms, seqNullable]
  exact mem_first_aux _ _ _ _ _ _

theorem firstSeq_nil {ft : FirstTbl} {a : Option Nat} : firstSeq ft [] a = [a] := rfl

theorem firstSeq_compose {ft : FirstTbl} {x : Sym Nat Nat} {xs : List (Sym Nat Nat)} {a a' b : Option Nat}
    (h1 : b ∈ firstSeq ft [x] a') (h2 : a' ∈ firstSeq ft xs a) : b ∈ firstSeq ft (x :: xs) a := by
  cases x with
  | t c => rw [mem_firstSeq_cons_t] at h1 ⊢; exact h1
  | n B =>
    rw [mem_firstSeq_cons_n, firstSeq_nil, List.mem_singleton] at h1
    exact mem_firstSeq_cons_n.mpr (h1.imp_right fun ⟨he, e⟩ => ⟨he, e ▸ h2⟩)

theorem first_rule_closed {g : Grammar Nat Nat} {ft : FirstTbl} (hc : firstClosedB g ft = true)
    {rule : Rule Nat Nat} (hr : rule ∈ g.rules) {a b : Option Nat} (hb : b ∈ firstSeq ft rule.rhs a) :
    b ∈ firstSeq ft [.n rule.lhs] a := by
  have := List.all_eq_true.mp hc rule hr
  simp only [Bool.and_eq_true, List.all_eq_true, Bool.or_eq_true, Bool.not_eq_true', List.contains_iff_mem] at this
  obtain ⟨h1, h2⟩ := this
  rw [mem_firstSeq_cons_n, firstSeq_nil, List.mem_singleton]
  simp only [firstSeq, List.mem_append, List.mem_map] at hb
  rcases hb with ⟨c, hc', rfl⟩ | hb
  · exact Or.inl (List.mem_map.mpr ⟨c, h1 c hc', rfl⟩)
  · cases hn : seqNullable ft rule.rhs with
    | false => simp [hn] at hb
    | true => exact Or.inr ⟨h2.resolve_left (by simp [hn]), by simpa [hn] using hb⟩

theorem la_yield_append {P : Type} (tok : Tok Nat P) (l : List (Tok Nat P)) : la (tok :: l) = some tok.kind := rfl

mutual
theorem first_complete_tree {P : Type} {g : Grammar Nat Nat} {ft : FirstTbl} (hc : firstClosedB g ft = true) :
    ∀ {t : Tree Nat P} {X}, WF g t X → ∀ rest : List (Tok Nat P),
      la (t.yield ++ rest) ∈ firstSeq ft [X] (la rest)
  | _, _, .leaf tok, rest => by simp [Tree.yield, la, firstSeq, seqTerms, seqNullable]
  | _, _, .node r rule cs hr hwl, rest =>
    first_rule_closed hc (List.mem_of_getElem? hr) (first_complete hc hwl rest)
theorem first_complete {P : Type} {g : Grammar Nat Nat} {ft : FirstTbl} (hc : firstClosedB g ft = true) :
    ∀ {ts : List (Tree Nat P)} {β}, WFL g ts β → ∀ rest : List (Tok Nat P),
      la (yieldList ts ++ rest) ∈ firstSeq ft β (la rest)
  | _, _, .nil, rest => by simp [yieldList, firstSeq, seqTerms, seqNullable]
  | _, _, .cons (c := c) (cs := cs) h1 h2, rest => by
    rw [yieldList, List.append_assoc]
    exact firstSeq_compose (first_complete_tree hc h1 _) (first_complete hc h2 rest)
end

theorem rhs_get_of_drop {α} {l : List α} {d : Nat} {x : α} (h : l[d]? = some x) : d < l.length :=
  (List.getElem?_eq_some_iff.mp h).1

theorem delta_t {C : Cert} {s c t : Nat} : C.delta s (.t c) = some t ↔ C.act s (some c) = .shift t := by
  simp only [Cert.delta]
  split <;> simp_all

section
variable {g : Grammar Nat Nat} {nN : Nat} {C : Cert} (hk : Checked g nN C)
include hk

theorem Checked.itemOK {s : Nat} {it : It} {rhs} (hit : it ∈ C.items s) (hr : g.rhsOf it.rule = some rhs) :
    ItemOK g C s it rhs := by
  obtain ⟨rhs', hr', h⟩ := itemB_iff.mp (hk.item s it hit)
  cases hr.symm.trans hr'
  exact h

theorem Checked.transOK {s t : Nat} {X} (hd : C.delta s X = some t) :
    t ≠ C.start ∧ ∀ r d a, ⟨r, d + 1, a⟩ ∈ C.items t →
      ∃ rhs, g.rhsOf r = some rhs ∧ rhs[d]? = some X ∧ ∃ a', ⟨r, d, a'⟩ ∈ C.items s :=
  have ⟨hs, hX⟩ := delta_some_mem hd hk.alen hk.glen hk.grows
  transB_iff.mp (hk.trans s X hs hX) t hd

theorem Checked.cellOK {s : Nat} {a : Option Nat} {A : Action} (h : C.act s a = A) :
    match (generalizing := false) A with
    | .shift _ => a ≠ none
    | .reduce j => ∃ rule, g.rules[j]? = some rule ∧ ∃ a', ⟨some j, rule.rhs.length, a'⟩ ∈ C.items s
    | .accept => a = none ∧ ∃ a', ⟨none, 1, a'⟩ ∈ C.items s
    | .err => True := by
  subst h
  by_cases h : C.act s a = .err
  · rw [h]; trivial
  · obtain ⟨hs, ha⟩ := act_ne_err_lt h hk.alen
    exact cellB_iff.mp (hk.cell s a hs ha)

end

theorem complete_of_checked {P : Type} {g : Grammar Nat Nat} {nN : Nat} {C : Cert} (hk : Checked g nN C) : Complete (P := P) g (mkAuto C) where
  start := hk.start
  closure := fun s r d a rhs B j rule' b hit hrhs hget hj hl hb =>
    (hk.itemOK hit hrhs).closure B hget j rule' hj hl b hb
  trans := fun s r d a rhs X hit hrhs hget => (hk.itemOK hit hrhs).trans X hget
  shift := fun s r d a rhs c t _ _ _ hd => delta_t.mp hd
  reduce := fun s j a rule hit hr => (hk.itemOK hit (rhsOf_some hr)).reduce j rfl (by simp)
  accept := fun s hit => (hk.itemOK (rhs := [.n g.start]) hit rfl).accept rfl rfl rfl
  goto := fun _ _ => rfl
  firstComplete := fun ts β rest hw => first_complete hk.first hw rest

theorem sound_of_checked {g : Grammar Nat Nat} {nN : Nat} {C : Cert} (hk : Checked g nN C) : Sound g (mkAuto C) where
  wfItem := fun s r d a hit => have ⟨rhs, hr, h⟩ := itemB_iff.mp (hk.item s _ hit); ⟨rhs, hr, h.dot⟩
  startDot := fun r d a hit => have ⟨_, _, h⟩ := itemB_iff.mp (hk.item _ _ hit); h.startDot rfl
  kernel := by
    intro s X t r d a rhs hd hit hrhs
    obtain ⟨rhs', hr', h⟩ := (hk.transOK hd).2 r d a hit
    cases hrhs.symm.trans hr'
    exact h
  closure0 := fun s j a rule hit hr =>
    have ⟨it', hm, rhs', hr', hp⟩ := (hk.itemOK hit (rhsOf_some hr)).closure0 j rule rfl rfl hr
    ⟨it'.rule, it'.dot, it'.la, rhs', hm, hr', hp⟩
  aug0 := fun s a hit => (hk.itemOK (rhs := [.n g.start]) hit rfl).aug0 rfl rfl
  noBack := fun s X hd => (hk.transOK hd).1 rfl
  transN := fun s r d a rhs B hit hrhs hget =>
    have ⟨t, ht, _⟩ := (hk.itemOK hit hrhs).trans _ hget
    ⟨t, ht⟩
  goto := fun _ _ => rfl
  actShift := fun s a t hact =>
    have ⟨c, e⟩ := Option.ne_none_iff_exists'.mp (hk.cellOK hact)
    ⟨c, e, delta_t.mpr (e ▸ hact)⟩
  actReduce := fun s a j hact => have ⟨rule, hr, a', hm⟩ := hk.cellOK hact; ⟨rule, a', hr, hm⟩
  actAccept := fun s a hact => hk.cellOK hact

/-- **the validator is sound** -/
theorem validB_sound {P : Type} {g : Grammar Nat Nat} {nN : Nat} {C : Cert} (h : validB g nN C = true) :
    Sound g (mkAuto C) ∧ Complete (P := P) g (mkAuto C) :=
  ⟨sound_of_checked (checked_of_validB h), complete_of_checked (checked_of_validB h)⟩

end Valid
end KikiVerif

namespace KikiVerif
namespace Valid
open LR

/-! ### untrusted helpers for building certificates (their output is checked by `validB`) -/

def firstStep (g : Grammar Nat Nat) (ft : FirstTbl) : FirstTbl :=
  g.rules.foldl (fun ft r =>
    let old := ft.getD r.lhs ([], false)
    let ts := (seqTerms ft r.rhs).foldl (fun acc c => if acc.contains c then acc else acc ++ [c]) old.1
    ft.set r.lhs (ts, old.2 || seqNullable ft r.rhs)) ft

def computeFirst (g : Grammar Nat Nat) (nT nN : Nat) : FirstTbl :=
  (List.range (nN * (nT + 2) + 2)).foldl (fun ft _ => firstStep g ft) (List.replicate nN ([], false))

/-- which part of `validB` fails first (diagnostics for the correspondence check) -/
def explain (g : Grammar Nat Nat) (nN : Nat) (C : Cert) : String :=
  if !(C.actions.length == C.states.length && C.gotos.length == C.states.length) then "table height differs from the number of states"
  else if !(C.gotos.all (fun row => row.length ≤ nN)) then "goto row too wide"
  else if !(firstClosedB g C.first) then "FIRST table not closed"
  else if !((C.items C.start).contains ⟨none, 0, none⟩) then "start state lacks the augmented item"
  else
    match (allStates C).find? (fun s => !((C.items s).all (itemB g C s))) with
    | some s =>
      match (C.items s).find? (fun it => !(itemB g C s it)) with
      | some it => s!"state {s}: item check fails for rule {it.rule} dot {it.dot} la {it.la}"
      | none => "?"
    | none =>
      match (allStates C).find? (fun s => !((allSyms C nN).all (transB g C s))) with
      | some s => s!"state {s}: a transition target has a kernel item without pre-image, or targets the start state"
      | none =>
        match (allStates C).find? (fun s => !((allLa C).all (cellB g C s))) with
        | some s => s!"state {s}: an action cell is not demanded by an item of the state"
        | none => "ok"

end Valid
end KikiVerif
