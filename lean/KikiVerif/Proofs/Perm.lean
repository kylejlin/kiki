/-
Order-independence at the places where the Rust code iterates over a hash collection (C14): `build_as_is`
writes both builder maps into flat grids by key, and writes with different keys commute.
-/
import KikiVerif.Proofs.Table

namespace KikiVerif
namespace Table
open LR (Action)

/-! ### a flat `n × w` grid written by key `(row, column)` -/

/-- the range-checked write both `Table::set_action` and `Table::set_goto` perform -/
def gridWrite {α : Type} (w n : Nat) (l : List α) (k : Nat × Nat) (x : α) : Option (List α) :=
  if k.2 < w ∧ k.1 < n then setChecked l (k.1 * w + k.2) x else none

variable {α : Type} {w n : Nat}

theorem gridWrite_eq_some {l l' : List α} {k : Nat × Nat} {x : α} :
    gridWrite w n l k x = some l' ↔
      k.2 < w ∧ k.1 < n ∧ k.1 * w + k.2 < l.length ∧ l' = l.set (k.1 * w + k.2) x := by
  unfold gridWrite setChecked
  by_cases h1 : k.2 < w ∧ k.1 < n <;> by_cases h2 : k.1 * w + k.2 < l.length <;> simp [h1, h2, eq_comm]
  · exact fun a b => absurd ⟨a, b⟩ h1

theorem gridWrite_comm (l : List α) {k1 k2 : Nat × Nat} (x y : α) (hk : k1 ≠ k2) :
    (gridWrite w n l k1 x).bind (fun l' => gridWrite w n l' k2 y) =
    (gridWrite w n l k2 y).bind (fun l' => gridWrite w n l' k1 x) := by
  have one : ∀ {k1 k2 : Nat × Nat} {x y : α} {u : List α}, k1 ≠ k2 →
      (gridWrite w n l k1 x).bind (fun l' => gridWrite w n l' k2 y) = some u →
      (gridWrite w n l k2 y).bind (fun l' => gridWrite w n l' k1 x) = some u := by
    intro k1 k2 x y u hk h
    simp only [Option.bind_eq_some_iff, gridWrite_eq_some] at h ⊢
    obtain ⟨_, ⟨a1, a2, a3, rfl⟩, b1, b2, b3, rfl⟩ := h
    rw [List.length_set] at b3
    refine ⟨_, ⟨b1, b2, b3, rfl⟩, a1, a2, by rwa [List.length_set], List.set_comm _ _ fun e => hk ?_⟩
    exact Prod.ext (idx_inj a1 b1 e).1 (idx_inj a1 b1 e).2
  apply Option.ext
  exact fun u => ⟨one hk, one hk.symm⟩

/-- `build_as_is` on one of the two maps: the entries written in list order -/
def gridFold {β : Type} (w n : Nat) (v : β → α) (l : List α) (es : List ((Nat × Nat) × β)) : Option (List α) :=
  es.foldlM (fun l e => gridWrite w n l e.1 (v e.2)) l

variable {β : Type} {v : β → α}

theorem gridFold_spec : ∀ (es : List ((Nat × Nat) × β)) (l l' : List α), gridFold w n v l es = some l' →
    (es.map (·.1)).Nodup →
    l'.length = l.length ∧ (∀ e ∈ es, e.1.2 < w ∧ e.1.1 < n ∧ l'[e.1.1 * w + e.1.2]? = some (v e.2)) ∧
    (∀ k : Nat × Nat, k.2 < w → k ∉ es.map (·.1) → l'[k.1 * w + k.2]? = l[k.1 * w + k.2]?) := by
  intro es
  induction es with
  | nil => intro l l' h _; cases h; simp
  | cons e es ih =>
    intro l l' h hnd
    simp only [gridFold, List.foldlM_cons, Option.bind_eq_bind, Option.bind_eq_some_iff] at h
    obtain ⟨l1, h1, h⟩ := h
    obtain ⟨c1, c2, c3, rfl⟩ := gridWrite_eq_some.mp h1
    rw [List.map_cons, List.nodup_cons] at hnd
    obtain ⟨i1, i2, i3⟩ := ih _ l' h hnd.2
    have other : ∀ k : Nat × Nat, k.2 < w → k ≠ e.1 → (l.set (e.1.1 * w + e.1.2) (v e.2))[k.1 * w + k.2]? = l[k.1 * w + k.2]? :=
      fun k hk hne => List.getElem?_set_ne fun e' => hne (Prod.ext (idx_inj hk c1 e'.symm).1 (idx_inj hk c1 e'.symm).2)
    refine ⟨by rw [i1, List.length_set], ?_, ?_⟩
    · intro e' he'
      rcases List.mem_cons.mp he' with rfl | he'
      · exact ⟨c1, c2, by rw [i3 _ c1 hnd.1, List.getElem?_set_self c3]⟩
      · exact i2 e' he'
    · intro k hk hnot
      rw [List.map_cons, List.mem_cons, not_or] at hnot
      rw [i3 k hk hnot.2, other k hk hnot.1]

theorem gridFold_some : ∀ (es : List ((Nat × Nat) × β)) (l : List α), (∀ e ∈ es, e.1.2 < w ∧ e.1.1 < n) →
    n * w ≤ l.length → ∃ l', gridFold w n v l es = some l' := by
  intro es
  induction es with
  | nil => intro l _ _; exact ⟨l, rfl⟩
  | cons e es ih =>
    intro l hall hlen
    obtain ⟨h1, h2⟩ := hall e List.mem_cons_self
    obtain ⟨l', h⟩ := ih (l.set (e.1.1 * w + e.1.2) (v e.2)) (fun e' he' => hall e' (List.mem_cons_of_mem _ he'))
      (by rwa [List.length_set])
    refine ⟨l', ?_⟩
    have hw : gridWrite w n l e.1 (v e.2) = some (l.set (e.1.1 * w + e.1.2) (v e.2)) :=
      gridWrite_eq_some.mpr ⟨h1, h2, Nat.lt_of_lt_of_le (idx_lt h2 h1) hlen, rfl⟩
    simp only [gridFold, List.foldlM_cons, hw]
    exact h

theorem foldlM_perm {α σ κ : Type} (f : σ → α → Option σ) (key : α → κ)
    (hcomm : ∀ t a b, key a ≠ key b → (f t a).bind (fun t' => f t' b) = (f t b).bind (fun t' => f t' a)) :
    ∀ (l1 l2 : List α), l1.Perm l2 → (l1.map key).Nodup → ∀ t, l1.foldlM f t = l2.foldlM f t := by
  intro l1 l2 hp
  induction hp with
  | nil => intro _ t; rfl
  | @cons x la lb _ ih =>
    intro hnd t
    simp only [List.foldlM_cons]
    have hnd' : (List.map key la).Nodup := by
      rw [List.map_cons, List.nodup_cons] at hnd; exact hnd.2
    cases f t x with
    | none => rfl
    | some t' => exact ih hnd' t'
  | swap x y l =>
    intro hnd t
    simp only [List.foldlM_cons]
    have hxy : key y ≠ key x := by
      simp only [List.map_cons, List.nodup_cons, List.mem_cons, not_or] at hnd
      exact hnd.1.1
    have := hcomm t y x hxy
    calc (f t y >>= fun t' => f t' x >>= fun t'' => l.foldlM f t'')
        = ((f t y).bind (fun t' => f t' x)).bind (fun t'' => l.foldlM f t'') := by
          cases f t y <;> rfl
      _ = ((f t x).bind (fun t' => f t' y)).bind (fun t'' => l.foldlM f t'') := by rw [this]
      _ = (f t x >>= fun t' => f t' y >>= fun t'' => l.foldlM f t'') := by
          cases f t x <;> rfl
  | trans h1 h2 ih1 ih2 =>
    intro hnd t
    rw [ih1 hnd t]
    exact ih2 ((h1.map key).nodup_iff.mp hnd) t

theorem gridFold_perm {es es' : List ((Nat × Nat) × β)} (hp : es.Perm es') (hnd : (es.map (·.1)).Nodup) (l : List α) :
    gridFold w n v l es = gridFold w n v l es' :=
  foldlM_perm _ (·.1) (fun l a b hk => gridWrite_comm l (v a.2) (v b.2) hk) es es' hp hnd l

/-! ### `build_as_is` as two grid folds -/

theorem writeAction_eq (t : Table) (s c : Nat) (a : Action) :
    writeAction t s c a = (gridWrite (t.nT + 1) t.nStates t.actions (s, c) a).map fun l => { t with actions := l } := by
  simp only [writeAction, gridWrite, Nat.lt_succ_iff]
  split <;> rfl

theorem writeGoto_eq (t : Table) (s c g : Nat) :
    writeGoto t s c g = (gridWrite t.nN t.nStates t.gotos (s, c) (some g)).map fun l => { t with gotos := l } := by
  simp only [writeGoto, gridWrite]
  split <;> rfl

theorem actFold_eq : ∀ (acts : List ((Nat × Nat) × (Machine.Item × Action))) (t : Table),
    acts.foldlM (fun t e => writeAction t e.1.1 e.1.2 e.2.2) t =
      (gridFold (t.nT + 1) t.nStates (·.2) t.actions acts).map fun l => { t with actions := l } := by
  intro acts
  induction acts with
  | nil => intro t; rfl
  | cons e es ih =>
    obtain ⟨⟨s, c⟩, _, a⟩ := e
    intro t
    rw [List.foldlM_cons, writeAction_eq, gridFold, List.foldlM_cons]
    cases gridWrite (t.nT + 1) t.nStates t.actions (s, c) a with
    | none => rfl
    | some l1 => exact ih _

theorem gotoFold_eq : ∀ (gts : List ((Nat × Nat) × Nat)) (t : Table),
    gts.foldlM (fun t e => writeGoto t e.1.1 e.1.2 e.2) t =
      (gridFold t.nN t.nStates some t.gotos gts).map fun l => { t with gotos := l } := by
  intro gts
  induction gts with
  | nil => intro t; rfl
  | cons e es ih =>
    obtain ⟨⟨s, c⟩, g⟩ := e
    intro t
    rw [List.foldlM_cons, writeGoto_eq, gridFold, List.foldlM_cons]
    cases gridWrite t.nN t.nStates t.gotos (s, c) (some g) with
    | none => rfl
    | some l1 => exact ih _

theorem buildAsIs_eq (t : Table) (acts : List ((Nat × Nat) × (Machine.Item × Action))) (gts : List ((Nat × Nat) × Nat)) :
    buildAsIs t acts gts =
      (gridFold (t.nT + 1) t.nStates (·.2) t.actions acts).bind fun la =>
      (gridFold t.nN t.nStates some t.gotos gts).map fun lg => { t with actions := la, gotos := lg } := by
  simp only [buildAsIs, actFold_eq]
  cases gridFold (t.nT + 1) t.nStates (·.2) t.actions acts with
  | none => rfl
  | some la => simp only [Option.map_some, Option.bind_some, gotoFold_eq]

/-- **C14, site 2**: `build_as_is` gives the same table for every iteration order of the two hash maps
(keys are distinct) -/
theorem buildAsIs_perm (t : Table) (acts acts' : List ((Nat × Nat) × (Machine.Item × Action)))
    (gts gts' : List ((Nat × Nat) × Nat)) (ha : acts.Perm acts') (hg : gts.Perm gts')
    (hka : (acts.map (·.1)).Nodup) (hkg : (gts.map (·.1)).Nodup) :
    buildAsIs t acts gts = buildAsIs t acts' gts' := by
  rw [buildAsIs_eq, buildAsIs_eq, gridFold_perm ha hka, gridFold_perm hg hkg]

/-- **C14, site 2, end to end**: whatever order the two `HashMap`s of `TableBuilder` are iterated in, the table
is the one `machine_to_table` returns -/
theorem machineToTable_order_independent (c : Machine.Ctx) (m : Machine.Machine) (tb tb' : TB)
    (h1 : addActions c m m.states 0 ⟨[], []⟩ = .ok tb) (h2 : addGotos m.transitions tb = .ok tb')
    (acts : List ((Nat × Nat) × (Machine.Item × Action))) (gts : List ((Nat × Nat) × Nat))
    (ha : tb'.actions.Perm acts) (hg : tb'.gotos.Perm gts) :
    buildAsIs (emptyTable c m) acts gts = buildAsIs (emptyTable c m) tb'.actions tb'.gotos := by
  have out := actions_outcome c m
  rw [h1] at out
  obtain ⟨hnd, rfl⟩ := (addGotos_eq_ok _ _ _ (by rw [out.2]; exact List.nodup_nil)).mp h2
  exact (buildAsIs_perm _ _ _ _ _ ha hg out.1.keys (by simpa [out.2] using hnd)).symm

end Table
end KikiVerif
