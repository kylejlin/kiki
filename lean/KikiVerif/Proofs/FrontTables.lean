/-
The two kernel evaluations over the item sets and tables of `parser.rs` (`validB`, `tightB`) — audited in
`Properties/C09` and `Properties/C03`.  They stand in a module of their own so that they are checked side by side
with the third evaluation over the same tables (`Proofs/HaltFront`) instead of one after the other.
-/
import KikiVerif.Model.FrontParse
import KikiVerif.Generated.ParserCert
import KikiVerif.Proofs.RuleTable
import KikiVerif.Proofs.Tight

namespace KikiVerif.C09
open KikiVerif KikiVerif.FrontParse KikiVerif.Generated KikiVerif.LR

/-- the tables of `parser.rs` (extracted) with candidate item sets and FIRST table (untrusted, produced by
running the model's LALR construction on `parser.kiki`; `tools/mk_cert.py`) -/
def parserCert : Valid.Cert :=
  { frontCert with states := ParserCert.states, first := ParserCert.first }

/-- **kernel-checked**: the ACTION / GOTO tables checked into `parser.rs` satisfy every local LR validity
condition for the grammar declared in `parser.kiki` -/
theorem C09_table_valid : Valid.validB kikiG ParserRs.nonterminalNames.length parserCert = true := by
  rw [kikiG_eq]
  decide +kernel

end KikiVerif.C09

namespace KikiVerif.C03
open KikiVerif.LR

open KikiVerif.FrontParse KikiVerif.Generated in
/-- **kernel-checked** on the tables checked into `parser.rs`: every item lies in the closure of its state's
kernel, no transition leads to an empty state, and every nonterminal of the Kiki grammar is productive -/
theorem C03_front_end :
    Valid.tightB kikiG ParserRs.nonterminalNames.length C09.parserCert = true ∧ Valid.productiveB kikiG = true := by
  -- evaluated with the early-exit closure of `Proofs/Tight`
  unfold Valid.tightB Valid.tightTransB
  simp only [← Valid.closeCoresE_eq, kikiG_eq]
  decide +kernel

end KikiVerif.C03
