/-
End-to-end statements about the driver loop `runCfg` (the `loop { … }` of the emitted `parse`),
lifted from the one-step theorems of `LR/Snd.lean` and `LR/Gen.lean`.
-/
import KikiVerif.LR.Snd

namespace KikiVerif
namespace LR
variable {T N P : Type}

/-- `step` reads the automaton only through ACTION and GOTO -/
theorem step_congr_auto {g : Grammar T N} {A A' : Auto T N} (ha : A.action = A'.action) (hg : A.goto = A'.goto)
    (c : Cfg T P) : step g A c = step g A' c := by
  unfold step
  rw [ha, hg]

/-- `step` reads a rule only through its left-hand side and the length of its right-hand side -/
theorem step_congr_grammar {g g' : Grammar T N} {A : Auto T N}
    (h : ∀ r : Nat, (g.rules[r]?).map (fun (x : Rule T N) => (x.lhs, x.rhs.length)) =
      (g'.rules[r]?).map (fun (x : Rule T N) => (x.lhs, x.rhs.length)))
    (c : Cfg T P) : step g A c = step g' A c := by
  unfold step
  cases c.states with
  | nil => rfl
  | cons top tl =>
    simp only
    cases A.action top (la c.rest) with
    | reduce r =>
      simp only
      have := h r
      cases h1 : g.rules[r]? <;> cases h2 : g'.rules[r]? <;> rw [h1, h2] at this <;>
        simp only [Option.map_some, Option.map_none, Option.some.injEq, Prod.mk.injEq, reduceCtorEq] at this
      simp only [this.1, this.2]
    | _ => rfl

theorem runCfg_congr {g g' : Grammar T N} {A A' : Auto T N} (h : ∀ c : Cfg T P, step g A c = step g' A' c) :
    ∀ fuel (c : Cfg T P), runCfg g A fuel c = runCfg g' A' fuel c := by
  intro fuel
  induction fuel with
  | zero => intro c; rfl
  | succ k ih =>
    intro c
    simp only [runCfg, h c]
    split
    · exact ih _
    · rfl

theorem runCfg_spec {g : Grammar T N} {A : Auto T N} :
    ∀ fuel (c : Cfg T P) r cf, runCfg g A fuel c = some (r, cf) →
      Steps g A c cf ∧ step g A cf = r ∧ ∀ c', r ≠ .cont c' := by
  intro fuel
  induction fuel with
  | zero => intro c r cf h; simp [runCfg] at h
  | succ k ih =>
    intro c r cf h
    simp only [runCfg] at h
    cases hstep : step g A c with
    | cont c' =>
      rw [hstep] at h
      obtain ⟨h1, h2⟩ := ih c' r cf h
      exact ⟨.head hstep h1, h2⟩
    | _ => rw [hstep] at h; cases h; exact ⟨.refl _, hstep, nofun⟩

/-- **safety and soundness of whole runs**: from a consistent configuration the loop never panics, and an
accepted run returns a derivation tree of the whole input (consumed part `u` followed by the rest) -/
theorem run_sound {g : Grammar T N} {A : Auto T N} (hs : Sound g A) :
    ∀ fuel (c : Cfg T P) (u : List (Tok T P)), Stk g A c.states c.nodes u →
      ∀ r cf, runCfg g A fuel c = some (r, cf) →
        r ≠ .panic ∧ (∀ c', r ≠ .cont c') ∧ (∀ t, r = .ok t → WF g t (.n g.start) ∧ t.yield = u ++ c.rest) := by
  intro fuel c u hstk r cf h
  obtain ⟨hsteps, rfl, hnc⟩ := runCfg_spec fuel c r cf h
  obtain ⟨u', hstk', hu⟩ := steps_stk hs hsteps u hstk
  have hinv := step_inv hs cf u' hstk'
  refine ⟨fun e => by simp [e] at hinv, hnc, fun t ht => ?_⟩
  rw [ht] at hinv
  exact ⟨hinv.1, by rw [← hu, hinv.2.2, hinv.2.1, List.append_nil]⟩

theorem runCfg_of_steps {g : Grammar T N} {A : Auto T N} {c c' : Cfg T P} {t : Tree T P}
    (hsteps : Steps g A c c') (hok : step g A c' = .ok t) : ∃ fuel, runCfg g A fuel c = some (.ok t, c') := by
  induction hsteps with
  | refl c => exact ⟨1, by simp [runCfg, hok]⟩
  | head hs _ ih =>
    obtain ⟨fuel, hf⟩ := ih hok
    exact ⟨fuel + 1, by simp [runCfg, hs, hf]⟩

/-- **completeness of whole runs**: the loop accepts every sentence, returning that very derivation tree -/
theorem run_accepts {g : Grammar T N} {A : Auto T N} (hc : Complete (P := P) g A)
    (t : Tree T P) (hwf : WF g t (.n g.start)) :
    ∃ fuel cf, runCfg g A fuel ⟨[A.start], [], t.yield⟩ = some (.ok t, cf) := by
  obtain ⟨c, hs, ho⟩ := run_complete hc t hwf
  obtain ⟨fuel, hf⟩ := runCfg_of_steps hs ho
  exact ⟨fuel, c, hf⟩

theorem runCfg_mono {g : Grammar T N} {A : Auto T N} :
    ∀ fuel (c : Cfg T P) r, runCfg g A fuel c = some r → ∀ k, runCfg g A (fuel + k) c = some r := by
  intro fuel
  induction fuel with
  | zero => intro c r h; simp [runCfg] at h
  | succ n ih =>
    intro c r h k
    rw [Nat.add_right_comm]
    simp only [runCfg] at h ⊢
    cases hs : step g A c with
    | cont c' => rw [hs] at h; exact ih c' r h k
    | _ => rw [hs] at h; exact h

/-- **the loop computes the derivation tree**: whenever the run on `w` ends it has not panicked, and it ends with
`Ok t` exactly for the derivation trees `t` of `w` from the start symbol (so there is at most one) -/
theorem run_result {g : Grammar T N} {A : Auto T N} (hs : Sound g A) (hc : Complete (P := P) g A)
    {w : List (Tok T P)} {fuel : Nat} {r : StepRes T P} {cf : Cfg T P}
    (h : runCfg g A fuel ⟨[A.start], [], w⟩ = some (r, cf)) :
    r ≠ .panic ∧ ∀ t, r = .ok t ↔ WF g t (.n g.start) ∧ t.yield = w := by
  obtain ⟨h1, _, h3⟩ := run_sound hs fuel _ [] .base _ _ h
  refine ⟨h1, fun t => ⟨fun e => by simpa using h3 t e, ?_⟩⟩
  rintro ⟨hw, rfl⟩
  obtain ⟨hsteps, rfl, hnc⟩ := runCfg_spec fuel _ r cf h
  exact stuck_ok hc hw hsteps hnc

/-- **the loop decides membership**: with `Sound` and `Complete`, whenever the run on `w` ends it ends with
`Ok` exactly if `w` is the yield of a derivation tree from the start symbol -/
theorem run_ok_iff {g : Grammar T N} {A : Auto T N} (hs : Sound g A) (hc : Complete (P := P) g A)
    (w : List (Tok T P)) (fuel : Nat) (r : StepRes T P) (cf : Cfg T P)
    (h : runCfg g A fuel ⟨[A.start], [], w⟩ = some (r, cf)) :
    (∃ t, r = .ok t) ↔ ∃ t, WF g t (.n g.start) ∧ t.yield = w :=
  exists_congr (run_result hs hc h).2

end LR
end KikiVerif
