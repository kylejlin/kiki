/-
After validation nothing can fail: `Encode.encode` succeeds (every symbol has a declaration of the right kind —
the FIRST-map `unwrap`s and table-column `expect`s are safe) and the text emitter's `unwrap`s succeed
(`get_type`, method lookup, the unique-identifier search terminates).  Hypothesis: terminal names contain no `$`
(`DollarFree`), which holds for every AST that comes from `tokenize` + `parse` + `cst_to_ast`
(the Rust type `DollarlessTerminalName` can only be built by `remove_dollars`).
-/
import KikiVerif.Proofs.Validate
import KikiVerif.Model.Encode
import KikiVerif.Proofs.Oset
import KikiVerif.Proofs.Names
import KikiVerif.Proofs.Emit
import KikiVerif.Spec.Unparse

namespace KikiVerif
namespace EmitTotal
open Ast Text Spec Validate Emit

/-- no terminal identifier of the file (declared or referenced) contains a `$` -/
def DollarFree (f : File) : Prop := ∀ n, Tk.termIdent n ∈ unFile f → Tokenize.removeDollars n = n

theorem mem_unSym {s : SymId} {i : TermIdent} (h : s = .t i) : Tk.termIdent i.name ∈ unSym s := by
  subst h; exact List.mem_singleton.mpr rfl

theorem mem_unFieldset {fs : Fieldset} {i : TermIdent} (hs : SymId.t i ∈ fs.syms) : Tk.termIdent i.name ∈ unFieldset fs := by
  cases fs with
  | empty => cases hs
  | named flds =>
    obtain ⟨fld, hf, he⟩ := List.mem_map.mp hs
    simp only [unFieldset, List.mem_append, List.mem_flatMap, unNamedField]
    exact .inl (.inr ⟨fld, hf, .inr (mem_unSym he)⟩)
  | tuple flds =>
    obtain ⟨fld, hf, he⟩ := List.mem_map.mp hs
    simp only [unFieldset, List.mem_append, List.mem_flatMap]
    refine .inl (.inr ⟨fld, hf, ?_⟩)
    cases fld with
    | used s => exact mem_unSym he
    | skipped s => exact List.mem_append_right _ (mem_unSym he)

theorem mem_unFile_of_sym {f : File} {fs : Fieldset} {i : TermIdent} (hfs : fs ∈ fieldsets f) (hs : SymId.t i ∈ fs.syms) :
    Tk.termIdent i.name ∈ unFile f := by
  obtain ⟨it, hit, hfs'⟩ := List.mem_flatMap.mp hfs
  refine List.mem_flatMap.mpr ⟨it, hit, ?_⟩
  cases it with
  | struct s => cases List.mem_singleton.mp hfs'; exact List.mem_append_right _ (mem_unFieldset hs)
  | enum e =>
    obtain ⟨v, hv, rfl⟩ := List.mem_map.mp hfs'
    simp only [unItem, List.mem_append, List.mem_flatMap, unVariant]
    exact .inl (.inr ⟨v, hv, .inr (mem_unFieldset hs)⟩)
  | _ => cases hfs'

theorem mem_unFile_of_variant {f : File} {t : TermEnum} {v : TermVariant} (ht : Item.terminal t ∈ f.items)
    (hv : v ∈ t.variants) : Tk.termIdent v.name.name ∈ unFile f := by
  unfold unFile
  refine List.mem_flatMap.mpr ⟨_, ht, ?_⟩
  simp only [unItem, List.mem_append, List.mem_flatMap]
  refine Or.inl (Or.inr ⟨v, hv, ?_⟩)
  simp [unTermVariant]

/-- the start symbol and every symbol of a rule is declared, with the right kind: then no lookup of `encode`
(FIRST-map `unwrap`, table-column `expect`) or of the emitter (`get_type`, the method table) can fail -/
structure Closed (vf : VFile.File) : Prop where
  start : vf.start ∈ vf.nonterminals.map (·.name)
  nts : ∀ r ∈ vf.rules, ∀ i, SymId.n i ∈ r.fieldset.syms → i.name ∈ vf.nonterminals.map (·.name)
  terms : ∀ r ∈ vf.rules, ∀ i, SymId.t i ∈ r.fieldset.syms → i.name ∈ vf.tenum.variants.map (·.name)

theorem rules_fieldsets {f : File} {vf : VFile.File} (h : vf.nonterminals = ntsOf f.items) :
    vf.rules.map (·.fieldset) = fieldsets f := by
  simp only [VFile.File.rules, h, fieldsets, ntsOf]
  induction f.items with
  | nil => rfl
  | cons it items ih =>
    cases it <;> simp only [List.filterMap_cons, List.flatMap_cons, List.map_append, ih, List.map_map,
      List.map_cons, List.map_nil, List.nil_append, Function.comp_def]

theorem validated_closed {f : File} {vf : VFile.File} (hv : validateAst f = .ok vf) (hdf : DollarFree f) :
    Closed vf := by
  obtain ⟨wf, t, i, ht, hi, e⟩ := (validateAst_spec f).of_ok hv
  have hn : vf.nonterminals.map (·.name) = nonterminalNames f := by rw [e]; exact ntsOf_names f
  have hfs {r : VFile.Rule} (hr : r ∈ vf.rules) : r.fieldset ∈ fieldsets f :=
    rules_fieldsets (f := f) (vf := vf) (by rw [e]) ▸ List.mem_map_of_mem hr
  refine ⟨?_, fun r hr j hj => ?_, fun r hr j hj => ?_⟩
  · rw [hn, e]; exact wf.startDefined i hi
  · rw [hn]; exact wf.refsDefined t ht _ (hfs hr) _ hj
  · obtain ⟨v, hv, e'⟩ := List.mem_map.mp (wf.refsDefined t ht _ (hfs hr) _ hj)
    rw [e, List.map_map]
    exact List.mem_map.mpr ⟨v, hv, (hdf _ (mem_unFile_of_variant (mem_terminal ht) hv)).trans e'⟩

theorem rules_lhs {vf : VFile.File} {r : VFile.Rule} (h : r ∈ vf.rules) :
    r.ctor.typeName ∈ vf.nonterminals.map (·.name) := by
  obtain ⟨n, hn, hr⟩ := List.mem_flatMap.mp h
  refine List.mem_map.mpr ⟨n, hn, ?_⟩
  cases n with
  | struct s => cases List.mem_singleton.mp hr; rfl
  | enum e => obtain ⟨v, _, rfl⟩ := List.mem_map.mp hr; rfl

theorem idxOf_isSome {l : List Str} {a : Str} (h : a ∈ l) : ((Encode.sortNames l).idxOf? a).isSome :=
  List.isSome_idxOf?.mpr ((Oset.mem_ofList l a).mpr h)

theorem encode_isSome {vf : VFile.File} (h : Closed vf) : (Encode.encode vf).isSome := by
  simp only [Encode.encode]
  split
  · rfl
  · rename_i hnot
    refine (hnot _ _ _ _ (Option.eq_some_of_isSome (List.isSome_mapM.mpr fun r hr => ?_))
      (Option.eq_some_of_isSome (idxOf_isSome h.start))
      (Option.eq_some_of_isSome (List.isSome_mapM.mpr fun _ hx => idxOf_isSome hx))
      (Option.eq_some_of_isSome (List.isSome_mapM.mpr fun _ hx => idxOf_isSome hx))).elim
    unfold Encode.codeRule
    split
    · rfl
    · rename_i hnot
      refine (hnot _ _ (Option.eq_some_of_isSome (idxOf_isSome (rules_lhs hr)))
        (Option.eq_some_of_isSome (List.isSome_mapM.mpr fun s hs => ?_))).elim
      cases s with
      | n j => simpa [Encode.codeSym] using idxOf_isSome (h.nts r hr j hs)
      | t j => simpa [Encode.codeSym] using idxOf_isSome (h.terms r hr j hs)

/-- **`Encode.encode` is total on validated files** (no FIRST-map `unwrap`, no table-column `expect` can fail) -/
theorem encode_total {f : File} {vf : VFile.File} (hv : validateAst f = .ok vf) (hdf : DollarFree f) :
    ∃ enc, Encode.encode vf = some enc :=
  Option.isSome_iff_exists.mp (encode_isSome (validated_closed hv hdf))

theorem getType_isSome {te : VFile.TermEnum} {n : Str} (h : n ∈ te.variants.map (·.name)) : (te.getType n).isSome := by
  obtain ⟨v, hv, rfl⟩ := List.mem_map.mp h
  simpa [VFile.TermEnum.getType] using ⟨v, hv, rfl⟩

theorem methodFor_isSome {te : VFile.TermEnum} {n : Str} (h : n ∈ te.variants.map (·.name)) :
    (methodFor (methodNames te) n).isSome := by
  obtain ⟨m, hm, rfl⟩ := List.mem_map.mp (methodNames_fst te ▸ h)
  simpa [methodFor] using ⟨_, _, hm⟩

def TermsKnown (te : VFile.TermEnum) (fs : Fieldset) : Prop :=
  ∀ i, SymId.t i ∈ fs.syms → i.name ∈ te.variants.map (·.name)

theorem fieldType_isSome {te : VFile.TermEnum} {fs : Fieldset} (h : TermsKnown te fs) {s : SymId} (hs : s ∈ fs.syms) :
    (fieldType te s).isSome := by
  cases s with
  | n i => rfl
  | t i => exact getType_isSome (h i hs)

open C06 in
theorem bodyOf_isSome {te : VFile.TermEnum} {fs : Fieldset} (h : TermsKnown te fs) : (bodyOf te fs).isSome := by
  cases fs with
  | empty => rfl
  | named flds =>
    simp only [bodyOf, namedFieldTypes_eq]
    split
    · rfl
    · rw [Option.isSome_map, List.isSome_mapM]
      intro p hp
      obtain ⟨f, hf, e⟩ := List.mem_filterMap.mp hp
      rw [Option.isSome_map]
      refine fieldType_isSome h (List.mem_map.mpr ⟨f, hf, ?_⟩)
      split at e <;> cases e; rfl
  | tuple flds =>
    simp only [bodyOf, tupleFieldTypes_eq]
    split
    · rfl
    · rw [Option.isSome_map, List.isSome_mapM]
      intro s hs
      obtain ⟨f, hf, e⟩ := List.mem_filterMap.mp hs
      refine fieldType_isSome h (List.mem_map.mpr ⟨f, hf, ?_⟩)
      cases f <;> cases e; rfl

theorem isSome_bind_some {α β : Type} {x : Option α} {g : α → β} : (x.bind fun a => some (g a)).isSome = x.isSome := by
  cases x <;> rfl

theorem reduceFnOf_isSome {te : VFile.TermEnum} {idx : Nat} {r : VFile.Rule} (h : TermsKnown te r.fieldset) :
    (reduceFnOf (methodNames te) idx r).isSome := by
  unfold reduceFnOf
  split <;> rename_i fs hfs
  · rfl
  · simp only [Option.bind_eq_bind, Option.pure_def]
    rw [isSome_bind_some, List.mapM_map, List.isSome_mapM]
    intro ⟨f, i⟩ hm
    have hf : f.sym ∈ r.fieldset.syms := hfs ▸ List.mem_map_of_mem (List.fst_mem_of_mem_zipIdx hm)
    simp only [Function.comp, id]
    split
    · rfl
    · rfl
    · rename_i ty _ hs
      exact Option.isSome_map.trans (methodFor_isSome (h ty (hs ▸ hf)))
  · simp only [Option.bind_eq_bind, Option.pure_def]
    rw [isSome_bind_some, List.mapM_map, List.isSome_mapM]
    intro ⟨f, i⟩ hm
    have hf : f.sym ∈ r.fieldset.syms := hfs ▸ List.mem_map_of_mem (List.fst_mem_of_mem_zipIdx hm)
    simp only [Function.comp, id]
    split
    · rfl
    · rfl
    · exact Option.isSome_map.trans (methodFor_isSome (h _ hf))

theorem typeDefOf_isSome {vf : VFile.File} (h : ∀ r ∈ vf.rules, TermsKnown vf.tenum r.fieldset)
    {n : VFile.Nonterminal} (hn : n ∈ vf.nonterminals) : (typeDefOf vf.tenum n).isSome := by
  have hr {r : VFile.Rule} (hr : r ∈ _) : r ∈ vf.rules := List.mem_flatMap.mpr ⟨n, hn, hr⟩
  cases n with
  | struct s => exact Option.isSome_map.trans (bodyOf_isSome (h _ (hr List.mem_cons_self)))
  | enum e =>
    rw [typeDefOf, Option.isSome_map, List.isSome_mapM]
    exact fun v hv => Option.isSome_map.trans (bodyOf_isSome (h _ (hr (List.mem_map_of_mem hv))))

theorem moduleOf_isSome {vf : VFile.File} (h : ∀ r ∈ vf.rules, TermsKnown vf.tenum r.fieldset)
    (enc : Encode.Enc) (t : Table.Table) (sha : Str) : (moduleOf vf enc t sha).isSome := by
  obtain ⟨names, hnames⟩ := chooseNames_some vf.definedIdentifiers
  obtain ⟨types, htypes⟩ := Option.isSome_iff_exists.mp (List.isSome_mapM.mpr fun n hn => typeDefOf_isSome h hn)
  simp only [moduleOf, hnames, htypes, Option.bind_eq_bind, Option.bind_some, Option.pure_def]
  rw [isSome_bind_some, List.mapM_map, List.isSome_mapM]
  exact fun ⟨r, k⟩ hm => reduceFnOf_isSome (h r (List.fst_mem_of_mem_zipIdx hm))

/-- **the text emitter is total on validated files**: `get_type(..).unwrap()`, the method lookup and the
unique-identifier search all succeed -/
theorem moduleOf_total {f : File} {vf : VFile.File} (hv : validateAst f = .ok vf) (hdf : DollarFree f)
    (enc : Encode.Enc) (t : Table.Table) (sha : Str) : ∃ m, moduleOf vf enc t sha = some m :=
  Option.isSome_iff_exists.mp (moduleOf_isSome (validated_closed hv hdf).terms enc t sha)

end EmitTotal
end KikiVerif
