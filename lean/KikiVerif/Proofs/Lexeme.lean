/-
One scanner step, characterised once.  `Spec.next` is a cascade of tests on the first character; what every
theorem about the scanner needs from it is the *lexeme*: which characters `w` a step consumes, which step it is, and
what it asks of the character behind `w`.  `Lex w post i s` lists the sixteen cases in that form; `next` always
falls under one of them (`next_spec`) and each determines `next` (`Lex.eq`).  Positions (`Proofs/Positions`),
translation of offsets (`Proofs/Shift`), locality (`Proofs/Separator`) and the run of the state machine over one
lexeme (`Proofs/Tokenize`) are read off case by case.
-/
import KikiVerif.Spec.Lex
import KikiVerif.Proofs.Text

namespace KikiVerif
namespace Spec
open Text

theorem span_eq (p : Char → Bool) (cs : Str) : span p cs = (cs.takeWhile p, cs.dropWhile p) := by
  induction cs with
  | nil => rfl
  | cons c cs ih => by_cases h : p c <;> simp [span, ih, h]

theorem mem_takeWhile (p : Char → Bool) (cs : Str) : ∀ x ∈ cs.takeWhile p, p x = true :=
  List.all_eq_true.mp List.all_takeWhile

theorem head?_dropWhile_false (p : Char → Bool) (cs : Str) : ∀ x ∈ (cs.dropWhile p).head?, p x = false := by
  intro x hx
  have := List.head?_dropWhile_not p cs
  rw [Option.mem_def.mp hx] at this
  exact this

theorem span_append_of {p : Char → Bool} {tl post : Str} (h1 : ∀ x ∈ tl, p x = true)
    (h2 : ∀ x ∈ post.head?, p x = false) : span p (tl ++ post) = (tl, post) := by
  rw [span_eq, List.takeWhile_append_of_pos h1, List.dropWhile_append_of_pos h1]
  cases post with
  | nil => simp
  | cons d r => simp [h2 d rfl]

theorem ws_not_identChar {c : Char} (h : isWhitespace c = true) : isIdentChar c = false := by
  rw [Bool.eq_false_iff]; intro hi
  simp [isWhitespace, isIdentChar, isAsciiAlnum, isAsciiAlpha, isAsciiUpper, isAsciiLower, isAsciiDigit] at h hi
  rcases hi with hi | rfl
  · omega
  · simp at h

theorem identStart_first {c : Char} (h : isIdentStart c = true) : isWhitespace c = false ∧ c ≠ '/' := by
  refine ⟨Bool.eq_false_iff.mpr fun hw => ?_, ?_⟩
  · exact absurd (identStart_identChar h) (by simp [ws_not_identChar hw])
  · rintro rfl; revert h; decide

theorem reserved_cases (w : Str) :
    (∀ p, reserved w p = none) ∨ (w = "_".toList ∧ ∀ p, reserved w p = some (.underscore p)) ∨
    (w = "start".toList ∧ ∀ p, reserved w p = some (.startKw p)) ∨
    (w = "struct".toList ∧ ∀ p, reserved w p = some (.structKw p)) ∨
    (w = "enum".toList ∧ ∀ p, reserved w p = some (.enumKw p)) ∨
    (w = "terminal".toList ∧ ∀ p, reserved w p = some (.terminalKw p)) := by
  unfold reserved
  -- `by_cases` with `if_pos`/`if_neg`, here and wherever a goal holds `"…".toList`: one `split` on such a goal costs
  -- about 2.6 M heartbeats, this whole chain 0.1 M
  by_cases h1 : w = "_".toList
  · exact .inr (.inl ⟨h1, fun p => if_pos h1⟩)
  by_cases h2 : w = "start".toList
  · exact .inr (.inr (.inl ⟨h2, fun p => by rw [if_neg h1, if_pos h2]⟩))
  by_cases h3 : w = "struct".toList
  · exact .inr (.inr (.inr (.inl ⟨h3, fun p => by rw [if_neg h1, if_neg h2, if_pos h3]⟩)))
  by_cases h4 : w = "enum".toList
  · exact .inr (.inr (.inr (.inr (.inl ⟨h4, fun p => by rw [if_neg h1, if_neg h2, if_neg h3, if_pos h4]⟩))))
  by_cases h5 : w = "terminal".toList
  · exact .inr (.inr (.inr (.inr (.inr ⟨h5, fun p => by rw [if_neg h1, if_neg h2, if_neg h3, if_neg h4, if_pos h5]⟩))))
  · exact .inl fun p => by rw [if_neg h1, if_neg h2, if_neg h3, if_neg h4, if_neg h5]

theorem punct_first {c : Char} {i : Nat} {t : Token} (h : punct c i = some t) :
    isWhitespace c = false ∧ c ≠ '/' ∧ isIdentStart c = false ∧ c ≠ '$' ∧ c ≠ '#' := by
  unfold punct at h
  split at h <;> first | decide | cases h

theorem commentLen_append (body rest : Str) (h : ∀ c ∈ body, c ≠ '\n') :
    commentLen (body ++ rest) = body.length + commentLen rest := by
  induction body with
  | nil => simp
  | cons c cs ih =>
    simp [commentLen, h c List.mem_cons_self, ih fun d hd => h d (List.mem_cons_of_mem _ hd)]; omega

theorem commentLen_line (body rest : Str) (h : ∀ c ∈ body, c ≠ '\n') :
    commentLen (body ++ '\n' :: rest) = body.length + 1 := by
  simp [commentLen_append body _ h, commentLen]

theorem commentLen_eof (body : Str) (h : ∀ c ∈ body, c ≠ '\n') : commentLen body = body.length := by
  simpa [commentLen] using commentLen_append body [] h

theorem comment_split (r : Str) :
    (∃ body post, r = body ++ '\n' :: post ∧ ∀ x ∈ body, x ≠ '\n') ∨ ∀ x ∈ r, x ≠ '\n' := by
  induction r with
  | nil => exact .inr (by simp)
  | cons c r ih =>
    by_cases hc : c = '\n'
    · exact .inl ⟨[], r, by simp [hc], by simp⟩
    · rcases ih with ⟨body, post, rfl, hb⟩ | h
      · exact .inl ⟨c :: body, post, rfl, by simpa [hc] using hb⟩
      · exact .inr (by simpa [hc] using h)

/-- the inside of an attribute is delimited by its own brackets: what follows does not matter -/
theorem attrBody_local : ∀ (r : Str) (j : Nat) (st : List Char) (body post : Str),
    attrBody r j st = .done body post →
    r = body ++ post ∧ ∀ post', attrBody (body ++ post') j st = .done body post' := by
  intro r j st
  fun_induction attrBody r j st <;> intro body post h
  case case5 => cases h; exact ⟨rfl, fun post' => by simp [attrBody, *]⟩
  -- a recursive call that returns `done`
  case case2 | case6 | case10 =>
    rename_i hb ih
    cases h
    obtain ⟨rfl, hl⟩ := ih _ _ hb
    exact ⟨rfl, fun post' => by simp [attrBody, *]⟩
  -- a recursive call that does not
  case case3 | case7 | case11 => exact (‹∀ b r : Str, _ = AttrRes.done b r → False› _ _ h).elim
  all_goals cases h

theorem AttrRes.eq_bad {x : AttrRes} (h : ∀ b r, x = .done b r → False) : ∃ j c, x = .bad j c := by
  cases x with
  | done b r => exact (h b r rfl).elim
  | bad j c => exact ⟨j, c, rfl⟩

def identTok (w : Str) (i : Nat) : Token := (reserved w i).getD (.ident w i)

/-- `Lex w post i s`: on the input `w ++ post` at offset `i` the scanner takes the step `s`, which consumes `w`
(nothing, if `s` is an error or the end).  Each case says what the step depends on besides `w`: for a step that
consumes something, at most the first character of `post`; an error is determined by the part of `post` it names. -/
inductive Lex : Str → Str → Nat → Step → Prop
  | done (i : Nat) : Lex [] [] i .done
  | ws {c : Char} (post : Str) (i : Nat) : isWhitespace c = true → Lex [c] post i (.skip 0)
  | comment {body : Str} (post : Str) (i : Nat) : (∀ x ∈ body, x ≠ '\n') →
      Lex ('/' :: '/' :: (body ++ ['\n'])) post i (.skip (body.length + 2))
  | commentEof {body : Str} (i : Nat) : (∀ x ∈ body, x ≠ '\n') →
      Lex ('/' :: '/' :: body) [] i (.skip (body.length + 1))
  | slash {post : Str} (i : Nat) : post.head? ≠ some '/' → Lex [] ('/' :: post) i (.bad i (some '/'))
  | ident {c : Char} {tl post : Str} (i : Nat) : isIdentStart c = true → (∀ x ∈ tl, isIdentChar x = true) →
      (∀ x ∈ post.head?, isIdentChar x = false) → Lex (c :: tl) post i (.emit (identTok (c :: tl) i) tl.length)
  | termIdent {d : Char} {tl post : Str} (i : Nat) : isIdentStart d = true → (∀ x ∈ tl, isIdentChar x = true) →
      (∀ x ∈ post.head?, isIdentChar x = false) → (reserved (d :: tl) 0).isSome = false →
      Lex ('$' :: d :: tl) post i (.emit (.termIdent (d :: tl) (i + 1)) (tl.length + 1))
  | termReserved {d : Char} {tl post : Str} (i : Nat) : isIdentStart d = true → (∀ x ∈ tl, isIdentChar x = true) →
      (∀ x ∈ post.head?, isIdentChar x = false) → (reserved (d :: tl) 0).isSome = true →
      Lex [] ('$' :: d :: (tl ++ post)) i (.bad (i + 1 + blen (d :: tl)) post.head?)
  | dollar {post : Str} (i : Nat) : (∀ x ∈ post.head?, isIdentStart x = false) →
      Lex [] ('$' :: post) i (.bad i (some '$'))
  | dcolon (post : Str) (i : Nat) : Lex [':', ':'] post i (.emit (.dcolon i) 1)
  | colon {post : Str} (i : Nat) : post.head? ≠ some ':' → Lex [':'] post i (.emit (.colon i) 0)
  | attr {body post : Str} (i : Nat) : attrBody (body ++ post) (i + 2) ['['] = .done body post →
      Lex ('#' :: '[' :: body) post i (.emit (.attr ('#' :: '[' :: body) i) (1 + body.length))
  | attrBad {r : Str} {j : Nat} {ch : Option Char} (i : Nat) : attrBody r (i + 2) ['['] = .bad j ch →
      Lex [] ('#' :: '[' :: r) i (.bad j ch)
  | pound {post : Str} (i : Nat) : post.head? ≠ some '[' → Lex [] ('#' :: post) i (.bad i (some '#'))
  | punct {c : Char} {t : Token} (post : Str) (i : Nat) : c ≠ ':' → punct c i = some t → Lex [c] post i (.emit t 0)
  | illegal {c : Char} (post : Str) (i : Nat) : isWhitespace c = false → c ≠ '/' → isIdentStart c = false →
      c ≠ '$' → c ≠ ':' → c ≠ '#' → punct c i = none → Lex [] (c :: post) i (.bad i (some c))

theorem next_spec (cs : Str) (i : Nat) : ∃ w post, cs = w ++ post ∧ Lex w post i (next cs i) := by
  cases cs with
  | nil => exact ⟨[], [], rfl, .done i⟩
  | cons c rest =>
    simp only [next]
    by_cases hw : isWhitespace c = true
    · rw [if_pos hw]; exact ⟨[c], rest, rfl, .ws rest i hw⟩
    rw [if_neg hw]
    by_cases hsl : c = '/'
    · subst c
      rw [if_pos rfl]
      cases rest with
      | nil => exact ⟨[], _, rfl, .slash i (by simp)⟩
      | cons d r =>
        dsimp only
        by_cases hd : d = '/'
        · subst d
          rw [if_pos rfl]
          rcases comment_split r with ⟨body, post, rfl, hb⟩ | hb
          · exact ⟨'/' :: '/' :: (body ++ ['\n']), post, by simp, by
              rw [commentLen_line body post hb, Nat.add_comm]; exact .comment post i hb⟩
          · exact ⟨'/' :: '/' :: r, [], by simp, by
              rw [commentLen_eof r hb, Nat.add_comm]; exact .commentEof i hb⟩
        · rw [if_neg hd]; exact ⟨[], _, rfl, .slash i (by simpa)⟩
    rw [if_neg hsl]
    by_cases hid : isIdentStart c = true
    · rw [if_pos hid, span_eq]
      exact ⟨c :: rest.takeWhile isIdentChar, rest.dropWhile isIdentChar, by simp,
        .ident i hid (mem_takeWhile _ _) (head?_dropWhile_false _ _)⟩
    rw [if_neg hid]
    by_cases hdl : c = '$'
    · subst c
      rw [if_pos rfl]
      cases rest with
      | nil => exact ⟨[], _, rfl, .dollar i (by simp)⟩
      | cons d r =>
        dsimp only
        by_cases hd : isIdentStart d = true
        · have hdc := identStart_identChar hd
          rw [if_pos hd, span_eq, List.takeWhile_cons_of_pos hdc, List.dropWhile_cons_of_pos hdc]
          by_cases hr : (reserved (d :: r.takeWhile isIdentChar) 0).isSome = true
          · rw [if_pos hr]
            refine ⟨[], _, rfl, ?_⟩
            have := Lex.termReserved (post := r.dropWhile isIdentChar) i hd (mem_takeWhile _ _)
              (head?_dropWhile_false _ _) hr
            rwa [List.takeWhile_append_dropWhile] at this
          · rw [if_neg hr]
            exact ⟨'$' :: d :: r.takeWhile isIdentChar, r.dropWhile isIdentChar, by simp,
              .termIdent i hd (mem_takeWhile _ _) (head?_dropWhile_false _ _) (Bool.eq_false_iff.mpr hr)⟩
        · rw [if_neg hd]; exact ⟨[], _, rfl, .dollar i (by simpa using Bool.eq_false_iff.mpr hd)⟩
    rw [if_neg hdl]
    by_cases hco : c = ':'
    · subst c
      rw [if_pos rfl]
      cases rest with
      | nil => exact ⟨_, [], rfl, .colon i (by simp)⟩
      | cons d r =>
        dsimp only
        by_cases hd : d = ':'
        · subst d; rw [if_pos rfl]; exact ⟨_, r, rfl, .dcolon r i⟩
        · rw [if_neg hd]; exact ⟨[':'], _, rfl, .colon i (by simpa)⟩
    rw [if_neg hco]
    by_cases hpo : c = '#'
    · subst c
      rw [if_pos rfl]
      cases rest with
      | nil => exact ⟨[], _, rfl, .pound i (by simp)⟩
      | cons d r =>
        dsimp only
        by_cases hd : d = '['
        · subst d
          rw [if_pos rfl]
          cases hb : attrBody r (i + 2) ['['] with
          | bad j ch => exact ⟨[], _, rfl, .attrBad i hb⟩
          | done body post =>
            obtain rfl := (attrBody_local _ _ _ _ _ hb).1
            exact ⟨_, post, rfl, .attr i hb⟩
        · rw [if_neg hd]; exact ⟨[], _, rfl, .pound i (by simpa)⟩
    rw [if_neg hpo]
    cases hp : punct c i with
    | some t => exact ⟨[c], rest, rfl, .punct rest i hco hp⟩
    | none =>
      exact ⟨[], _, rfl, .illegal rest i (Bool.eq_false_iff.mpr hw) hsl (Bool.eq_false_iff.mpr hid) hdl hco hpo hp⟩

theorem Lex.eq {w post : Str} {i : Nat} {s : Step} (h : Lex w post i s) : next (w ++ post) i = s := by
  cases h with
  | done => rfl
  | ws _ _ h => exact next_whitespace _ _ _ h
  | comment _ _ hb => simp +decide [next, commentLen_line _ _ hb]; omega
  | commentEof _ hb => simp +decide [next, commentLen_eof _ hb]; omega
  | @slash post _ h => cases post <;> simp_all +decide [next]
  | ident _ hc ht hp => simp [next, identStart_first hc, hc, span_append_of ht hp, identTok]
  | termIdent _ hd ht hp hr =>
    simp +decide [next, hd, span, identStart_identChar hd, span_append_of ht hp, hr]
  | termReserved _ hd ht hp hr =>
    simp +decide [next, hd, span, identStart_identChar hd, span_append_of ht hp, hr]
  | @dollar post _ h => cases post <;> simp_all +decide [next]
  | dcolon => simp +decide [next]
  | @colon post _ h => cases post <;> simp_all +decide [next]
  | attr _ h => simp +decide [next, h]
  | attrBad _ h => simp +decide [next, h]
  | @pound post _ h => cases post <;> simp_all +decide [next]
  | punct _ _ hc hp => simp [next, punct_first hp, hc, hp]
  | illegal _ _ h1 h2 h3 h4 h5 h6 h7 => simp [next, *]

theorem Lex.length {w post : Str} {i k : Nat} {s : Step} (h : Lex w post i s)
    (hs : s = .skip k ∨ ∃ t, s = .emit t k) : w.length = k + 1 := by
  cases h <;> simp at hs <;> simp <;> omega

theorem scanFrom_lex {w post : Str} {i : Nat} {s : Step} (h : Lex w post i s) :
    scanFrom (w ++ post) i =
      match (generalizing := false) s with
      | .done => .ok []
      | .bad j c => .err (.lex j c)
      | .skip _ => scanFrom post (i + blen w)
      | .emit t _ => match scanFrom post (i + blen w) with
        | .ok ts => .ok (t :: ts)
        | e => e := by
  cases s with
  | done => exact scanFrom_done h.eq
  | bad j c => exact scanFrom_bad h.eq
  | skip k =>
    have hl := h.length (.inl rfl)
    rw [scanFrom_skip h.eq, List.drop_left' hl, List.take_left' hl]
  | emit t k =>
    have hl := h.length (.inr ⟨t, rfl⟩)
    rw [scanFrom_emit h.eq, List.drop_left' hl, List.take_left' hl]
    rfl

theorem scan_induction {motive : Str → Nat → Prop}
    (done : ∀ i, motive [] i)
    (bad : ∀ post i j c, Lex [] post i (.bad j c) → motive post i)
    (skip : ∀ w post i k, Lex w post i (.skip k) → motive post (i + blen w) → motive (w ++ post) i)
    (emit : ∀ w post i t k, Lex w post i (.emit t k) → motive post (i + blen w) → motive (w ++ post) i) :
    ∀ cs i, motive cs i := by
  intro cs
  induction h : cs.length using Nat.strongRecOn generalizing cs with
  | _ n ih =>
    intro i
    obtain ⟨w, post, rfl, hl⟩ := next_spec cs i
    have hlt : ∀ k, (next (w ++ post) i = .skip k ∨ ∃ t, next (w ++ post) i = .emit t k) → post.length < n := by
      intro k hs; have := hl.length hs; simp at h; omega
    cases hs : next (w ++ post) i with
    | done => rw [hs] at hl; cases hl; exact done i
    | bad j c =>
      rw [hs] at hl
      obtain rfl : w = [] := by cases hl <;> rfl
      exact bad post i j c hl
    | skip k => exact skip w post i k (hs ▸ hl) (ih _ (hlt k (.inl hs)) _ rfl _)
    | emit t k => exact emit w post i t k (hs ▸ hl) (ih _ (hlt k (.inr ⟨t, hs⟩)) _ rfl _)

end Spec
end KikiVerif
