/-
The grammar of `parser.kiki` in coded form as a literal, evaluated once.  The table checks of `Proofs/FrontTables`,
the small table facts of `Properties/C09` and the sweep over the rules in `Proofs/CstToAst` start from it.
-/
import KikiVerif.Model.FrontParse

namespace KikiVerif
namespace FrontParse
open LR

/-- the grammar of `parser.kiki` in coded form, written out.  `kikiRules_eq` compares it with the rules computed
from `Generated/ParserKiki.lean`, which the translator rewrites on every run: if `parser.kiki` changes, that
lemma — and with it every proof that starts from the literal — no longer checks -/
def ruleTable : List (Rule Nat Nat) :=
  [⟨0, [.n 1]⟩, ⟨1, []⟩, ⟨1, [.n 1, .n 2]⟩, ⟨2, [.t 4, .t 1]⟩, ⟨2, [.n 3]⟩, ⟨2, [.n 4]⟩, ⟨2, [.n 5]⟩,
   ⟨3, [.n 6, .t 5, .t 1, .n 7]⟩, ⟨4, [.n 6, .t 6, .t 1, .t 13, .n 14, .t 14]⟩,
   ⟨5, [.n 6, .t 7, .t 1, .t 13, .n 16, .t 14]⟩, ⟨6, []⟩, ⟨6, [.n 6, .t 3]⟩, ⟨7, []⟩, ⟨7, [.n 8]⟩, ⟨7, [.n 11]⟩,
   ⟨8, [.t 13, .n 9, .t 14]⟩, ⟨9, [.n 10]⟩, ⟨9, [.n 9, .n 10]⟩, ⟨10, [.n 22, .t 8, .n 23]⟩,
   ⟨11, [.t 11, .n 12, .t 12]⟩, ⟨12, [.n 13]⟩, ⟨12, [.n 12, .n 13]⟩, ⟨13, [.n 23]⟩, ⟨13, [.t 0, .t 8, .n 23]⟩,
   ⟨14, []⟩, ⟨14, [.n 14, .n 15]⟩, ⟨15, [.t 1, .n 7]⟩, ⟨16, []⟩, ⟨16, [.n 16, .n 17]⟩, ⟨17, [.t 2, .t 8, .n 18]⟩,
   ⟨18, [.t 11, .t 12]⟩, ⟨18, [.n 19]⟩, ⟨18, [.n 20]⟩, ⟨19, [.t 1]⟩, ⟨19, [.n 19, .t 9, .t 1]⟩,
   ⟨20, [.n 19, .t 15, .n 21, .t 16]⟩, ⟨21, [.n 18]⟩, ⟨21, [.n 21, .t 10, .n 18]⟩, ⟨22, [.t 1]⟩, ⟨22, [.t 0]⟩,
   ⟨23, [.t 1]⟩, ⟨23, [.t 2]⟩]

theorem kikiRules_eq : kikiRules = some ruleTable := by decide +kernel

theorem rules_eq : kikiG.rules = ruleTable := by rw [kikiG, kikiRules_eq]; rfl

theorem start_eq : kikiG.start = 0 := by decide +kernel

/-- evaluating a table check on this literal instead of `kikiG` spares it the string comparisons that build `kikiG` -/
theorem kikiG_eq : kikiG = ⟨ruleTable, 0⟩ := by rw [← rules_eq, ← start_eq]

end FrontParse
end KikiVerif
