/-
The two specifications of C10 agree (no truthful error report about a well-formed file), hence `validate_ast`
accepts every well-formed file.
-/
import KikiVerif.Proofs.Validate

namespace KikiVerif
namespace Validate
open Ast Text Spec Res

theorem before_not_nodup {α β : Type} {l : List (α × β)} {a : α} {p q : β} (h : Before l (a, p) (a, q)) :
    ¬ (l.map (·.1)).Nodup := by
  obtain ⟨pre, mid, post, rfl⟩ := h
  intro hn
  rw [List.map_append, List.map_append, List.map_cons, List.map_cons, List.append_assoc] at hn
  exact (List.nodup_cons.mp (List.nodup_append.mp hn).2.1).1 (List.mem_append_right _ List.mem_cons_self)

theorem namedFieldNames_eq (fs : Fieldset) : namedFieldNames fs = (fieldsetIdents fs).map (·.name) := by
  cases fs <;> simp only [namedFieldNames, fieldsetIdents, List.map_nil, List.map_filterMap]
  congr 1; funext fld; cases fld.name <;> rfl

theorem truthful_not_wellFormed {f : File} {e : KErr} (h : Truthful f e) : ¬ WellFormed f := by
  intro wf
  obtain ⟨s, hs⟩ := wf.oneStart
  obtain ⟨t, ht⟩ := wf.oneTerminal
  cases h with
  | noStart h => simp [hs] at h
  | multiStart h => simp [hs] at h
  | noTerminal h => simp [ht] at h
  | multiTerminal h => simp [ht] at h
  | notUpper name pos hm hn =>
    obtain ⟨it, hit, hmem⟩ := List.mem_flatMap.mp hm
    apply hn
    cases it with
    | start i => cases hmem
    | struct s' => cases List.mem_singleton.mp hmem; exact wf.upperTypes _ (List.mem_filterMap.mpr ⟨_, hit, rfl⟩)
    | enum en =>
      rcases List.mem_cons.mp hmem with h | h
      · cases h; exact wf.upperTypes _ (List.mem_filterMap.mpr ⟨_, hit, rfl⟩)
      · obtain ⟨v, hv, h⟩ := List.mem_map.mp h
        cases h; exact wf.upperVariants en (List.mem_filterMap.mpr ⟨_, hit, rfl⟩) v hv
    | terminal t' =>
      have : t' ∈ termEnums f := List.mem_filterMap.mpr ⟨_, hit, rfl⟩
      cases List.mem_singleton.mp (ht ▸ this)
      rcases List.mem_cons.mp hmem with h | h
      · cases h; exact (wf.upperTerminals _ ht).1
      · obtain ⟨v, hv, h⟩ := List.mem_map.mp h
        cases h; exact (wf.upperTerminals _ ht).2 v hv
  | notLower i hm hn =>
    obtain ⟨fs, hfs, hi⟩ := List.mem_flatMap.mp hm
    exact hn (wf.lowerFields fs hfs _ (namedFieldNames_eq fs ▸ List.mem_map_of_mem hi))
  | nameClash t' name p q ht' hb => exact before_not_nodup hb (topDefs_names f t' ▸ wf.topLevelDistinct t' ht')
  | variantNameClash en name p q he hb => exact before_not_nodup hb (by rw [List.map_map]; exact wf.variantNames en he)
  | variantSeqClash en seq p q he hb => exact before_not_nodup hb (by rw [List.map_map]; exact wf.variantSeqs en he)
  | undefNonterminal i hm hn =>
    rcases hm with hm | hm
    · obtain ⟨fs, hfs, h⟩ := List.mem_flatMap.mp hm
      exact hn (wf.refsDefined t ht fs hfs _ h)
    · cases List.mem_singleton.mp (hs ▸ hm)
      exact hn (wf.startDefined _ hs)
  | undefTerminal t' i ht' hm hn =>
    obtain ⟨fs, hfs, h⟩ := List.mem_flatMap.mp hm
    exact hn (wf.refsDefined t' ht' fs hfs _ h)

/-- **completeness of validation**: every well-formed file is accepted -/
theorem wellFormed_validate_ok {f : File} (wf : WellFormed f) : ∃ v, validateAst f = .ok v := by
  have h := validateAst_spec f
  cases hv : validateAst f with
  | ok v => exact ⟨v, rfl⟩
  | err e => exact absurd wf (truthful_not_wellFormed (h.of_err hv))
  | panic s => exact absurd hv (h.no_panic s)

end Validate
end KikiVerif
