/-
Lemmas about the `Oset` model: the sortedness invariant, refinement to finite
sets, extensionality.  For any element type with a lawful total order
(`Std.TransOrd`, `Std.LawfulEqOrd`).
-/
import KikiVerif.Model.Oset

namespace KikiVerif
namespace Oset
open Std

variable {α : Type} [Ord α] [TransOrd α] [LawfulEqOrd α]

/-- strictly ascending -/
def Sorted (l : List α) : Prop := l.Pairwise (fun a b => compare a b = .lt)

/-- weakly ascending -/
def SortedLe (l : List α) : Prop := l.Pairwise (fun a b => leB a b = true)

omit [LawfulEqOrd α] in
theorem lt_irrefl' (a : α) : compare a a ≠ .lt := by
  rw [ReflCmp.compare_self (cmp := compare)]; simp

omit [LawfulEqOrd α] in
theorem Sorted.nodup {l : List α} (h : Sorted l) : l.Nodup := by
  refine List.Pairwise.imp (fun hab e => ?_) h
  exact lt_irrefl' _ (e ▸ hab)

omit [LawfulEqOrd α] in
theorem Sorted.not_mem_of_lt {x y : α} {ys : List α} (h : Sorted (y :: ys)) (hx : compare x y = .lt) :
    x ∉ y :: ys := by
  intro hm
  rcases List.mem_cons.mp hm with rfl | hm
  · exact lt_irrefl' _ hx
  · exact lt_irrefl' _ (TransCmp.lt_trans hx ((List.pairwise_cons.mp h).1 x hm))

omit [LawfulEqOrd α] in
theorem sorted_ext : ∀ (a b : List α), Sorted a → Sorted b → (∀ x, x ∈ a ↔ x ∈ b) → a = b
  | [], [], _, _, _ => rfl
  | [], y :: _, _, _, h => by simpa using h y
  | x :: _, [], _, _, h => by simpa using h x
  | x :: xs, y :: ys, ha, hb, h => by
    obtain ⟨hx, hxs⟩ := List.pairwise_cons.mp ha
    obtain ⟨hy, hys⟩ := List.pairwise_cons.mp hb
    -- each head is the least element of its list
    obtain rfl : x = y := by
      rcases List.mem_cons.mp ((h x).mp List.mem_cons_self) with e | hm
      · exact e
      · rcases List.mem_cons.mp ((h y).mpr List.mem_cons_self) with e | hm'
        · exact e.symm
        · exact absurd (TransCmp.lt_trans (hy x hm) (hx y hm')) (lt_irrefl' y)
    congr 1
    refine sorted_ext xs ys hxs hys fun z => ?_
    have hz := h z
    simp only [List.mem_cons] at hz
    constructor
    · intro hm; exact (hz.mp (Or.inr hm)).resolve_left fun e => lt_irrefl' x (e ▸ hx z hm)
    · intro hm; exact (hz.mpr (Or.inr hm)).resolve_left fun e => lt_irrefl' x (e ▸ hy z hm)

omit [TransOrd α] [LawfulEqOrd α] in
theorem search_shift (x : α) (l : List α) (i : Nat) :
    search x l i = ((search x l 0).1, (search x l 0).2 + i) := by
  induction l generalizing i with
  | nil => simp [search]
  | cons y ys ih =>
    simp only [search]
    cases compare y x with
    | lt => rw [ih (i + 1), ih (0 + 1)]; simp; omega
    | eq => simp
    | gt => simp

theorem search_found (x : α) (l : List α) (i : Nat) (h : Sorted l) :
    (search x l i).1 = true ↔ x ∈ l := by
  induction l generalizing i with
  | nil => simp [search]
  | cons y ys ih =>
    simp only [search]
    cases hc : compare y x with
    | lt =>
      have : x ≠ y := fun e => lt_irrefl' y (e ▸ hc)
      simp [ih (i + 1) (List.pairwise_cons.mp h).2, this]
    | eq => simp [LawfulEqCmp.eq_of_compare hc]
    | gt => simpa using Sorted.not_mem_of_lt h (OrientedCmp.lt_of_gt hc)

omit [LawfulEqOrd α] in
/-- where `search` says `Err(k)`: everything before `k` is smaller, everything from `k` on is larger -/
theorem search_split (x : α) (l : List α) (k : Nat) (h : Sorted l) (hs : search x l 0 = (false, k)) :
    k ≤ l.length ∧ (∀ a ∈ l.take k, compare a x = .lt) ∧ (∀ b ∈ l.drop k, compare x b = .lt) := by
  induction l generalizing k with
  | nil => simp [search] at hs; simp [← hs]
  | cons y ys ih =>
    obtain ⟨hy, hys⟩ := List.pairwise_cons.mp h
    simp only [search] at hs
    cases hc : compare y x with
    | eq => simp [hc] at hs
    | lt =>
      rw [hc, search_shift] at hs
      obtain ⟨h1, rfl⟩ : (search x ys 0).1 = false ∧ (search x ys 0).2 + 1 = k := by simpa using hs
      obtain ⟨hle, hlt, hgt⟩ := ih _ hys (by rw [← h1])
      refine ⟨by simpa using hle, fun a ha => ?_, by simpa using hgt⟩
      rcases List.mem_cons.mp (by simpa using ha) with rfl | ha
      · exact hc
      · exact hlt a ha
    | gt =>
      obtain rfl : 0 = k := by simpa [hc] using hs
      refine ⟨by simp, by simp, fun b hb => ?_⟩
      rcases List.mem_cons.mp (by simpa using hb) with rfl | hb
      · exact OrientedCmp.lt_of_gt hc
      · exact TransCmp.lt_trans (OrientedCmp.lt_of_gt hc) (hy b hb)

theorem contains_iff (s : Oset α) (x : α) (h : Sorted s.raw) : s.contains x = true ↔ x ∈ s.raw :=
  search_found x s.raw 0 h

omit [TransOrd α] [LawfulEqOrd α] in
theorem insert_of_contains {s : Oset α} {x : α} (h : s.contains x = true) : s.insert x = s := by
  unfold contains at h
  unfold insert
  split
  · rfl
  · rename_i hs; simp [hs] at h

omit [LawfulEqOrd α] in
theorem insert_raw {s : Oset α} {x : α} (h : Sorted s.raw) (hx : s.contains x = false) :
    ∃ k, k ≤ s.raw.length ∧ (s.insert x).raw = s.raw.take k ++ x :: s.raw.drop k ∧
      (∀ a ∈ s.raw.take k, compare a x = .lt) ∧ (∀ b ∈ s.raw.drop k, compare x b = .lt) := by
  have hs : search x s.raw 0 = (false, (search x s.raw 0).2) := by rw [← hx]; rfl
  generalize (search x s.raw 0).2 = k at hs
  obtain ⟨hk, hlt, hgt⟩ := search_split x s.raw k h hs
  exact ⟨k, hk, by simp [insert, hs, insertAt], hlt, hgt⟩

omit [LawfulEqOrd α] in
theorem insert_sorted (s : Oset α) (x : α) (h : Sorted s.raw) : Sorted (s.insert x).raw := by
  cases hc : s.contains x with
  | true => rw [insert_of_contains hc]; exact h
  | false =>
    obtain ⟨k, _, e, hlt, hgt⟩ := insert_raw h hc
    rw [e]
    rw [← List.take_append_drop k s.raw] at h
    obtain ⟨h1, h2, h3⟩ := List.pairwise_append.mp h
    refine List.pairwise_append.mpr ⟨h1, List.pairwise_cons.mpr ⟨hgt, h2⟩, fun a ha b hb => ?_⟩
    rcases List.mem_cons.mp hb with rfl | hb
    · exact hlt a ha
    · exact h3 a ha b hb

theorem mem_insert (s : Oset α) (x y : α) (h : Sorted s.raw) :
    y ∈ (s.insert x).raw ↔ y = x ∨ y ∈ s.raw := by
  cases hc : s.contains x with
  | true =>
    have := (contains_iff s x h).mp hc
    rw [insert_of_contains hc]
    exact ⟨Or.inr, fun h' => h'.elim (· ▸ this) id⟩
  | false =>
    obtain ⟨k, _, e, _⟩ := insert_raw h hc
    rw [e]
    conv => rhs; rw [← List.take_append_drop k s.raw]
    simp only [List.mem_append, List.mem_cons]
    exact or_left_comm

omit [LawfulEqOrd α] in
theorem length_insert {s : Oset α} {x : α} (h : Sorted s.raw) (hx : s.contains x = false) :
    (s.insert x).raw.length = s.raw.length + 1 := by
  obtain ⟨k, hk, e, _⟩ := insert_raw h hx
  rw [e]
  simp; omega

omit [LawfulEqOrd α] in
theorem leB_trans (a b c : α) (h1 : leB a b = true) (h2 : leB b c = true) : leB a c = true := by
  have e : ∀ (o : Ordering), (o != .gt) = o.isLE := by intro o; cases o <;> rfl
  unfold leB at *
  rw [e] at *
  exact TransCmp.isLE_trans h1 h2

omit [LawfulEqOrd α] in
theorem leB_total (a b : α) : (leB a b || leB b a) = true := by
  unfold leB
  cases h : compare a b with
  | gt => simp [OrientedCmp.lt_of_gt h]
  | _ => simp

omit [LawfulEqOrd α] in
theorem mergeSort_sortedLe (l : List α) : SortedLe (l.mergeSort leB) :=
  List.pairwise_mergeSort leB_trans leB_total l

omit [TransOrd α] in
theorem mem_dedupAdj (l : List α) (x : α) : x ∈ dedupAdj l ↔ x ∈ l := by
  induction l using dedupAdj.induct with
  | case1 => simp [dedupAdj]
  | case2 y => simp [dedupAdj]
  | case3 a b rest hc ih =>
    obtain rfl : a = b := by simpa using hc
    simp [dedupAdj, ih]
  | case4 a b rest hc ih => simp [dedupAdj, hc, ih]

theorem dedupAdj_sorted (l : List α) (h : SortedLe l) : Sorted (dedupAdj l) := by
  induction l using dedupAdj.induct with
  | case1 => simp [dedupAdj, Sorted]
  | case2 y => simp [dedupAdj, Sorted]
  | case3 a b rest hc ih =>
    simp only [dedupAdj, hc, if_true]
    exact ih (List.pairwise_cons.mp h).2
  | case4 a b rest hc ih =>
    obtain ⟨ha, htl⟩ := List.pairwise_cons.mp h
    simp only [dedupAdj, hc, Bool.false_eq_true, if_false]
    refine List.pairwise_cons.mpr ⟨fun z hz => ?_, ih htl⟩
    have hz' : z ∈ b :: rest := (mem_dedupAdj _ _).mp hz
    -- `a ≤ b ≤ z` and `a ≠ b`, so `a < z`
    have hab : compare a b = .lt := by
      have := ha b List.mem_cons_self
      cases hcab : compare a b <;> simp_all [leB]
    rcases List.mem_cons.mp hz' with rfl | hm
    · exact hab
    · have hbz := (List.pairwise_cons.mp htl).1 z hm
      exact TransCmp.lt_of_lt_of_isLE hab (by cases hc' : compare b z <;> simp_all [leB])

theorem ofList_sorted (l : List α) : Sorted (ofList l).raw :=
  dedupAdj_sorted _ (mergeSort_sortedLe l)

omit [TransOrd α] in
theorem mem_ofList (l : List α) (x : α) : x ∈ (ofList l).raw ↔ x ∈ l := by
  unfold ofList; rw [mem_dedupAdj, List.mem_mergeSort]

theorem extend_sorted (s : Oset α) (l : List α) : Sorted (s.extend l).raw :=
  dedupAdj_sorted _ (mergeSort_sortedLe _)

omit [TransOrd α] in
theorem mem_extend (s : Oset α) (l : List α) (x : α) : x ∈ (s.extend l).raw ↔ x ∈ s.raw ∨ x ∈ l := by
  unfold extend; rw [mem_dedupAdj, List.mem_mergeSort, List.mem_append]

end Oset
end KikiVerif
