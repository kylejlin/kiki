/-
`cst_to_ast` is total on the derivation trees the front-end parser returns and preserves order:
unparsing the AST gives back the (position-free) tokens of the input, in order.
-/
import KikiVerif.Proofs.RuleTable
import KikiVerif.Spec.Unparse

namespace KikiVerif
namespace FrontParse
open LR Spec

/-- position-free tokens at the leaves -/
def EY (t : CTree) : List Tk := t.yield.map fun l => erase l.payload

/-- every leaf carries the kind of its own token (true of everything `parse` builds: `mkTok`) -/
def Good (t : CTree) : Prop := ∀ l ∈ t.yield, l.kind = Token.kind l.payload

theorem EY_leaf (k : Nat) (p : Token) : EY (.leaf ⟨k, p⟩) = [erase p] := rfl

theorem EY_node (r : Nat) (cs : List CTree) : EY (.node r cs) = cs.flatMap EY := by
  simp only [EY, Tree.yield]
  induction cs with
  | nil => rfl
  | cons c cs ih => simp [yieldList, ih, EY]

theorem good_node {r : Nat} {cs : List CTree} : Good (.node r cs) ↔ ∀ c ∈ cs, Good c := by
  simp only [Good, Tree.yield]
  induction cs with
  | nil => simp [yieldList]
  | cons c cs ih => simp [yieldList, or_imp, forall_and, ih]

def Flattens {α : Type} (f : CTree → Option α) (un : α → List Tk) (t : CTree) : Prop :=
  ∃ v, f t = some v ∧ EY t = un v

def FlatT : Nat → CTree → Prop
  | 0, t => ∃ k p, t = .leaf ⟨k, .underscore p⟩
  | 1, t => ∃ k n p, t = .leaf ⟨k, .ident n p⟩
  | 2, t => ∃ k n p, t = .leaf ⟨k, .termIdent n p⟩
  | 3, t => ∃ k s p, t = .leaf ⟨k, .attr s p⟩
  | 4, t => ∃ k p, t = .leaf ⟨k, .startKw p⟩
  | 5, t => ∃ k p, t = .leaf ⟨k, .structKw p⟩
  | 6, t => ∃ k p, t = .leaf ⟨k, .enumKw p⟩
  | 7, t => ∃ k p, t = .leaf ⟨k, .terminalKw p⟩
  | 8, t => ∃ k p, t = .leaf ⟨k, .colon p⟩
  | 9, t => ∃ k p, t = .leaf ⟨k, .dcolon p⟩
  | 10, t => ∃ k p, t = .leaf ⟨k, .comma p⟩
  | 11, t => ∃ k p, t = .leaf ⟨k, .lparen p⟩
  | 12, t => ∃ k p, t = .leaf ⟨k, .rparen p⟩
  | 13, t => ∃ k p, t = .leaf ⟨k, .lcurly p⟩
  | 14, t => ∃ k p, t = .leaf ⟨k, .rcurly p⟩
  | 15, t => ∃ k p, t = .leaf ⟨k, .langle p⟩
  | 16, t => ∃ k p, t = .leaf ⟨k, .rangle p⟩
  | _, _ => False

/-- what `cst_to_ast.rs` does below each nonterminal of the Kiki grammar.  A nonterminal without a `From` impl
of its own in the model (3–5, 8, 11, 15, 17, 20) is flattened by the function of the nonterminal that wraps it. -/
def FlatN : Nat → CTree → Prop
  | 0, t => Flattens cstToAst unFile t
  | 1, t => Flattens itemsOf (·.flatMap unItem) t
  | 2, t => Flattens itemOf unItem t
  | 3, t => Flattens itemOf unItem (.node 4 [t])
  | 4, t => Flattens itemOf unItem (.node 5 [t])
  | 5, t => Flattens itemOf unItem (.node 6 [t])
  | 6, t => Flattens attrsOf unAttrs t
  | 7, t => Flattens fieldsetOf unFieldset t
  | 8, t => Flattens fieldsetOf unFieldset (.node 13 [t])
  | 9, t => Flattens namedFieldsOf (·.flatMap unNamedField) t
  | 10, t => Flattens namedFieldOf unNamedField t
  | 11, t => Flattens fieldsetOf unFieldset (.node 14 [t])
  | 12, t => Flattens tupleFieldsOf (·.flatMap unTupleField) t
  | 13, t => Flattens tupleFieldOf unTupleField t
  | 14, t => Flattens variantsOf (·.flatMap unVariant) t
  | 15, t => ∃ name fs n f, t = .node 26 [name, fs] ∧ identOf name = some n ∧ fieldsetOf fs = some f ∧
      EY t = unVariant ⟨n, f⟩
  | 16, t => Flattens termVariantsOf (·.flatMap unTermVariant) t
  | 17, t => ∃ name c ty n y, t = .node 29 [name, c, ty] ∧ termIdentOf name = some n ∧ typeOf ty = some y ∧
      EY t = unTermVariant ⟨n, y⟩
  | 18, t => Flattens typeOf unType t
  | 19, t => Flattens pathOf unPath t ∧ pathOf t ≠ some []
  | 20, t => Flattens typeOf unType (.node 32 [t])
  | 21, t => Flattens typesOf unTypes t ∧ typesOf t ≠ some []
  | 22, t => Flattens fieldNameOf unFieldName t
  | 23, t => Flattens symIdOf unSym t
  | _, _ => False

def Flat : Sym Nat Nat → CTree → Prop
  | .t k => FlatT k
  | .n X => FlatN X

/-- rule `X → xs`, numbered `r`, is flattened correctly if its children are (curried; `pre` = the children so far) -/
def RuleOk (X r : Nat) : List (Sym Nat Nat) → List CTree → Prop
  | [], pre => Flat (.n X) (.node r pre)
  | x :: xs, pre => ∀ c, Flat x c → RuleOk X r xs (pre ++ [c])

theorem unPath_snoc : ∀ (xs : List Ast.Ident) (x : Ast.Ident), xs ≠ [] →
    unPath (xs ++ [x]) = unPath xs ++ [.dcolon, .ident x.name]
  | [], _, h => absurd rfl h
  | [_], _, _ => rfl
  | y :: z :: zs, x, _ => congrArg (Tk.ident y.name :: .dcolon :: ·) (unPath_snoc (z :: zs) x (by simp))

theorem unTypes_snoc : ∀ (xs : List Ast.Ty) (x : Ast.Ty), xs ≠ [] →
    unTypes (xs ++ [x]) = unTypes xs ++ [.comma] ++ unType x
  | [], _, h => absurd rfl h
  | [_], _, _ => by simp [unTypes]
  | y :: z :: zs, x, _ => by
    have := unTypes_snoc (z :: zs) x (by simp)
    simp only [List.cons_append] at this ⊢
    simp only [unTypes, this, List.append_assoc]

theorem flat_leaf (tok : FTok) (h : tok.kind = Token.kind tok.payload) : Flat (.t tok.kind) (.leaf tok) := by
  obtain ⟨k, p⟩ := tok
  simp only at h; subst h
  -- computing the kind first leaves `FlatT` a literal to match on; the unifier reaches the same row far more slowly
  cases p <;> dsimp only [Flat, Token.kind] <;> first | exact ⟨_, _, rfl⟩ | exact ⟨_, _, _, rfl⟩

attribute [local simp] Flattens EY_node EY_leaf erase unFile unAttrs unVariant unTermVariant unNamedField in
theorem flat_rule : ∀ p ∈ kikiG.rules.zipIdx, RuleOk p.1.lhs p.2 p.1.rhs [] := by
  rw [rules_eq]
  simp only [ruleTable, List.zipIdx_cons, List.zipIdx_nil, List.forall_mem_cons, List.not_mem_nil, false_imp_iff, implies_true,
    and_true, Nat.zero_add, Nat.reduceAdd, RuleOk, List.nil_append, List.cons_append]
  -- one goal per rule, in the order of `ruleTable`; `show` unfolds `Flat` by whnf, which is much cheaper than
  -- letting `simp` unfold a `match` with 25 alternatives
  and_intros
  · rintro c ⟨xs, hxs, exs⟩; show Flattens _ _ _; simp [cstToAst, *]
  · show Flattens _ _ _; simp [itemsOf]
  · rintro c1 ⟨xs, hxs, exs⟩ c2 ⟨x, hx, ex⟩; show Flattens _ _ _; simp [itemsOf, *]
  · rintro _ ⟨_, _, rfl⟩ _ ⟨k, n, p, rfl⟩; show Flattens _ _ _; simp [itemOf, identOf, unItem]
  · exact fun _ h => h
  · exact fun _ h => h
  · exact fun _ h => h
  · rintro c1 ⟨as, has, eas⟩ _ ⟨_, _, rfl⟩ _ ⟨k, n, p, rfl⟩ c4 ⟨fs, hfs, efs⟩; show Flattens _ _ _; simp [itemOf, identOf, unItem, *]
  · rintro c1 ⟨as, has, eas⟩ _ ⟨_, _, rfl⟩ _ ⟨k, n, p, rfl⟩ _ ⟨_, _, rfl⟩ c5 ⟨vs, hvs, evs⟩ _ ⟨_, _, rfl⟩
    show Flattens _ _ _; simp [itemOf, identOf, unItem, *]
  · rintro c1 ⟨as, has, eas⟩ _ ⟨_, _, rfl⟩ _ ⟨k, n, p, rfl⟩ _ ⟨_, _, rfl⟩ c5 ⟨vs, hvs, evs⟩ _ ⟨_, _, rfl⟩
    show Flattens _ _ _; simp [itemOf, identOf, unItem, *]
  · show Flattens _ _ _; simp [attrsOf]
  · rintro c1 ⟨xs, hxs, exs⟩ _ ⟨k, s, p, rfl⟩; show Flattens _ _ _; simp [attrsOf, attrOf, *]
  · show Flattens _ _ _; simp [fieldsetOf, unFieldset]
  · exact fun _ h => h
  · exact fun _ h => h
  · rintro _ ⟨_, _, rfl⟩ c2 ⟨fs, hfs, efs⟩ _ ⟨_, _, rfl⟩; show Flattens _ _ _; simp [fieldsetOf, unFieldset, *]
  · rintro c ⟨x, hx, ex⟩; show Flattens _ _ _; simp [namedFieldsOf, *]
  · rintro c1 ⟨xs, hxs, exs⟩ c2 ⟨x, hx, ex⟩; show Flattens _ _ _; simp [namedFieldsOf, *]
  · rintro c1 ⟨n, hn, en⟩ _ ⟨_, _, rfl⟩ c3 ⟨s, hs, es⟩; show Flattens _ _ _; simp [namedFieldOf, *]
  · rintro _ ⟨_, _, rfl⟩ c2 ⟨fs, hfs, efs⟩ _ ⟨_, _, rfl⟩; show Flattens _ _ _; simp [fieldsetOf, unFieldset, *]
  · rintro c ⟨x, hx, ex⟩; show Flattens _ _ _; simp [tupleFieldsOf, *]
  · rintro c1 ⟨xs, hxs, exs⟩ c2 ⟨x, hx, ex⟩; show Flattens _ _ _; simp [tupleFieldsOf, *]
  · rintro c ⟨s, hs, es⟩; show Flattens _ _ _; simp [tupleFieldOf, unTupleField, *]
  · rintro _ ⟨k, p, rfl⟩ _ ⟨_, _, rfl⟩ c3 ⟨s, hs, es⟩; show Flattens _ _ _; simp [tupleFieldOf, unTupleField, *]
  · show Flattens _ _ _; simp [variantsOf]
  · rintro c1 ⟨xs, hxs, exs⟩ _ ⟨name, fs, n, f, rfl, hn, hf, e⟩; show Flattens _ _ _; simp [variantsOf, *]
  · rintro _ ⟨k, n, p, rfl⟩ c2 ⟨f, hf, ef⟩; exact ⟨_, _, _, _, rfl, rfl, hf, by simp [*]⟩
  · show Flattens _ _ _; simp [termVariantsOf]
  · rintro c1 ⟨xs, hxs, exs⟩ _ ⟨name, c, ty, n, y, rfl, hn, hy, e⟩; show Flattens _ _ _; simp [termVariantsOf, *]
  · rintro _ ⟨k, n, p, rfl⟩ _ ⟨_, _, rfl⟩ c3 ⟨y, hy, ey⟩; exact ⟨_, _, _, _, _, rfl, rfl, hy, by simp [*]⟩
  · rintro _ ⟨_, _, rfl⟩ _ ⟨_, _, rfl⟩; show Flattens _ _ _; simp [typeOf, unType]
  · rintro c ⟨⟨p, hp, ep⟩, _⟩; show Flattens _ _ _; simp [typeOf, unType, *]
  · exact fun _ h => h
  · rintro _ ⟨k, n, p, rfl⟩; show Flattens _ _ _ ∧ _; simp [pathOf, identOf, unPath]
  · rintro c1 ⟨⟨xs, hxs, exs⟩, hne⟩ _ ⟨_, _, rfl⟩ _ ⟨k, n, p, rfl⟩
    show Flattens _ _ _ ∧ _; simp [pathOf, identOf, unPath_snoc xs _ (by simpa [hxs] using hne), *]
  · rintro c1 ⟨⟨p, hp, ep⟩, _⟩ _ ⟨_, _, rfl⟩ c3 ⟨⟨as, has, eas⟩, _⟩ _ ⟨_, _, rfl⟩; show Flattens _ _ _; simp [typeOf, unType, *]
  · rintro c ⟨y, hy, ey⟩; show Flattens _ _ _ ∧ _; simp [typesOf, unTypes, *]
  · rintro c1 ⟨⟨xs, hxs, exs⟩, hne⟩ _ ⟨_, _, rfl⟩ c3 ⟨y, hy, ey⟩
    show Flattens _ _ _ ∧ _; simp [typesOf, unTypes_snoc xs _ (by simpa [hxs] using hne), *]
  · rintro _ ⟨k, n, p, rfl⟩; show Flattens _ _ _; simp [fieldNameOf, identOf, unFieldName]
  · rintro _ ⟨k, p, rfl⟩; show Flattens _ _ _; simp [fieldNameOf, unFieldName]
  · rintro _ ⟨k, n, p, rfl⟩; show Flattens _ _ _; simp [symIdOf, identOf, unSym]
  · rintro _ ⟨k, n, p, rfl⟩; show Flattens _ _ _; simp [symIdOf, termIdentOf, unSym]

theorem flat_of_wf {t : CTree} {s : Sym Nat Nat} (hw : WF kikiG t s) : Good t → Flat s t := by
  refine WF.rec (motive_1 := fun t s _ => Good t → Flat s t)
    (motive_2 := fun cs xs _ => (∀ c ∈ cs, Good c) → ∀ X r pre, RuleOk X r xs pre → Flat (.n X) (.node r (pre ++ cs)))
    ?_ ?_ ?_ ?_ hw
  · exact fun tok hg => flat_leaf tok (hg tok (List.mem_singleton_self _))
  · exact fun r rule cs hr _ ih hg =>
      ih (good_node.mp hg) _ _ [] (flat_rule (rule, r) (List.mem_zipIdx_iff_getElem?.mpr hr))
  · exact fun _ X r pre h => by simpa [RuleOk] using h
  · intro c cs x xs _ _ ih1 ih2 hg X r pre h
    have := ih2 (fun c hc => hg c (List.mem_cons_of_mem _ hc)) X r _ (h c (ih1 (hg _ (List.mem_cons_self ..))))
    simpa using this

/-- **`cst_to_ast` is total and order-preserving**: for every derivation tree of the Kiki grammar whose
leaves carry their own token kinds, `cstToAst` succeeds and unparsing its result gives exactly the
(position-free) tokens at the leaves, in order -/
theorem cstToAst_ok {t : CTree} (hw : WF kikiG t (.n kikiG.start)) (hg : Good t) :
    ∃ ast, cstToAst t = some ast ∧ unFile ast = EY t := by
  rw [start_eq] at hw
  obtain ⟨v, h, e⟩ := flat_of_wf hw hg
  exact ⟨v, h, e.symm⟩

end FrontParse
end KikiVerif
