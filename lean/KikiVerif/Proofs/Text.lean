/-
Lemmas about byte offsets and slices.
-/
import KikiVerif.Model.Text
namespace KikiVerif
namespace Text

theorem clen_pos (c : Char) : 0 < clen c := Char.utf8Size_pos c

@[simp] theorem blen_nil : blen [] = 0 := rfl
@[simp] theorem blen_cons (c : Char) (cs : Str) : blen (c :: cs) = clen c + blen cs := rfl

@[simp] theorem blen_append (a b : Str) : blen (a ++ b) = blen a + blen b := by
  induction a with
  | nil => simp
  | cons c cs ih => simp [ih, Nat.add_assoc]

theorem bytes_cons (c : Char) (cs : Str) (n : Nat) :
    dropBytes (c :: cs) (clen c + n) = dropBytes cs n ∧
    takeBytes (c :: cs) (clen c + n) = (takeBytes cs n).map (c :: ·) := by
  obtain ⟨m, hm⟩ : ∃ m, clen c + n = m + 1 := ⟨clen c + n - 1, by have := clen_pos c; omega⟩
  rw [hm, dropBytes, takeBytes, if_pos (by omega), if_pos (by omega), show m + 1 - clen c = n by omega]
  exact ⟨rfl, rfl⟩

theorem dropBytes_append (pre r : Str) : dropBytes (pre ++ r) (blen pre) = some r := by
  induction pre with
  | nil => cases r <;> rfl
  | cons c cs ih => rw [List.cons_append, blen_cons, (bytes_cons ..).1, ih]

theorem takeBytes_append (w post : Str) : takeBytes (w ++ post) (blen w) = some w := by
  induction w with
  | nil => cases post <;> rfl
  | cons c cs ih => rw [List.cons_append, blen_cons, (bytes_cons ..).2, ih]; rfl

theorem slice_mid (pre w post : Str) :
    sliceBytes (pre ++ w ++ post) (blen pre) (blen pre + blen w) = some w := by
  rw [sliceBytes, if_pos (Nat.le_add_right ..), List.append_assoc, dropBytes_append, Nat.add_sub_cancel_left]
  exact takeBytes_append w post

end Text
end KikiVerif
