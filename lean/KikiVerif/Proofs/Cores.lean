/-
Cores (`(rule, dot)` pairs): the set of cores of a closure is determined by the cores of its kernel —
lookaheads play no part.  This is what makes LALR merging stable: re-deriving a transition target after a
state has gained lookaheads finds the same state again.
-/
import KikiVerif.Proofs.Closure
import KikiVerif.Proofs.First

namespace KikiVerif
namespace Machine
open LR (Sym Rule Grammar)

abbrev Core := Nat × Nat

def coreOf (x : Item) : Core := (x.rule, x.dot)

/-- the cores of a set of items given as a predicate (a canonical LR(1) state is not a list) -/
def coresP (I : Item → Prop) : Core → Prop := fun p => ∃ x, I x ∧ coreOf x = p

/-- the two states have the same set of cores -/
def SameCores (A B : State) : Prop := ∀ p : Core, (∃ x ∈ A, coreOf x = p) ↔ (∃ x ∈ B, coreOf x = p)

/-- `SameCores` with a predicate on the left -/
def SameCoresPS (I : Item → Prop) (S : State) : Prop := ∀ p, coresP I p ↔ ∃ y ∈ S, coreOf y = p

theorem SameCores.refl (A : State) : SameCores A A := fun _ => Iff.rfl
theorem SameCores.symm {A B : State} (h : SameCores A B) : SameCores B A := fun p => (h p).symm
theorem SameCores.trans {A B C : State} (h1 : SameCores A B) (h2 : SameCores B C) : SameCores A C :=
  fun p => (h1 p).trans (h2 p)

/-- the form `is_core_subset` computes -/
def CoreSub (A B : State) : Prop := ∀ x ∈ A, ∃ y ∈ B, x.rule = y.rule ∧ x.dot = y.dot

theorem CoreSub.of_subset {A B : State} (h : ∀ x ∈ A, x ∈ B) : CoreSub A B := fun x hx => ⟨x, h x hx, rfl, rfl⟩

theorem coreSub_iff {A B : State} :
    CoreSub A B ↔ ∀ p : Core, (∃ x ∈ A, coreOf x = p) → ∃ y ∈ B, coreOf y = p := by
  simp only [CoreSub, coreOf, Prod.forall, Prod.mk.injEq]
  constructor
  · rintro h r d ⟨x, hx, rfl, rfl⟩
    obtain ⟨y, hy, e⟩ := h x hx
    exact ⟨y, hy, e.1.symm, e.2.symm⟩
  · intro h x hx
    obtain ⟨y, hy, e⟩ := h _ _ ⟨x, hx, rfl, rfl⟩
    exact ⟨y, hy, e.1.symm, e.2.symm⟩

theorem sameCores_iff {A B : State} : SameCores A B ↔ CoreSub A B ∧ CoreSub B A := by
  simp only [coreSub_iff, SameCores, iff_def, forall_and]

theorem isCoreSubset_iff {a b : State} : isCoreSubset a b = true ↔ CoreSub a b := by
  simp [isCoreSubset, CoreSub]

theorem areCoresEqual_iff_same {a b : State} : areCoresEqual a b = true ↔ SameCores a b := by
  rw [sameCores_iff, areCoresEqual, Bool.and_eq_true, isCoreSubset_iff, isCoreSubset_iff]

def someOf : Option FirstSet → Bool
  | some f => f.eps || !f.terminals.isEmpty
  | none => false

/-- does an item with this sequence after the nonterminal right of its dot imply anything at all?
(its lookahead list is empty only when the sequence is not nullable and has an empty FIRST set) -/
def impliesSome (fm : List FirstSet) (afterDot : List (Sym Nat Nat)) : Bool := someOf (firstOfSeq fm afterDot [])

def impliedCores (c : Ctx) (fm : List FirstSet) (p : Core) : List Core :=
  match (rhsOf c p.1)[p.2]? with
  | some (.n b) =>
    match impliesSome fm ((rhsOf c p.1).drop (p.2 + 1)) with
    | true => (ruleIndicesFor c b).map fun r => (r, 0)
    | false => []
  | _ => []

theorem mem_impliedCores {c : Ctx} {fm : List FirstSet} {p q : Core} :
    q ∈ impliedCores c fm p ↔ ∃ b, (rhsOf c p.1)[p.2]? = some (.n b) ∧
      impliesSome fm ((rhsOf c p.1).drop (p.2 + 1)) = true ∧ q.1 ∈ ruleIndicesFor c b ∧ q.2 = 0 := by
  unfold impliedCores
  split
  · rename_i b hb
    cases impliesSome fm ((rhsOf c p.1).drop (p.2 + 1)) <;> simp [hb, Prod.ext_iff, eq_comm]
    exact ⟨fun ⟨_, h, e, d⟩ => ⟨e ▸ h, d⟩, fun ⟨h, d⟩ => ⟨_, h, rfl, d⟩⟩
  · rename_i hn
    simpa using fun b hb => absurd hb (hn b)

theorem las_spec {fm : List FirstSet} {after : List (Sym Nat Nat)} {la : Nat} {las : List Nat}
    (h : augmentedFirst fm after la = some las) : (∃ a, a ∈ las) ↔ impliesSome fm after = true := by
  obtain ⟨f, hf, rfl⟩ := augmentedFirst_eq_some.mp h
  cases he : f.eps <;> simp [impliesSome, hf, someOf, he, Oset.mem_ofList, List.eq_nil_iff_forall_not_mem]

theorem implied_cores {c : Ctx} {fm : List FirstSet} {x : Item} {imp : List Item}
    (h : impliedItems c fm x = some imp) (q : Core) :
    (∃ y ∈ imp, coreOf y = q) ↔ q ∈ impliedCores c fm (coreOf x) := by
  simp only [mem_impliedCores, mem_impliedItems h, coreOf]
  constructor
  · rintro ⟨y, ⟨b, las, hb, hlas, hla, hr, hd⟩, rfl⟩
    exact ⟨b, hb, (las_spec hlas).mp ⟨_, hla⟩, hr, hd⟩
  · rintro ⟨b, hb, hsome, hr, hd⟩
    cases hlas : augmentedFirst fm ((rhsOf c x.rule).drop (x.dot + 1)) x.la with
    | none => simp [impliedItems_n hb, hlas] at h
    | some las =>
      obtain ⟨la, hla⟩ := (las_spec hlas).mpr hsome
      exact ⟨⟨q.1, la, q.2⟩, ⟨b, las, hb, rfl, hla, hr, hd⟩, rfl⟩

/-- cores generated from a set of kernel cores -/
inductive CReach (c : Ctx) (fm : List FirstSet) (KC : Core → Prop) : Core → Prop
  | kernel {p} : KC p → CReach c fm KC p
  | step {p q} : CReach c fm KC p → q ∈ impliedCores c fm p → CReach c fm KC q

theorem CReach.mono {c : Ctx} {fm : List FirstSet} {KC KC' : Core → Prop} (h : ∀ p, KC p → KC' p) {q : Core}
    (hq : CReach c fm KC q) : CReach c fm KC' q := by
  induction hq with
  | kernel hk => exact .kernel (h _ hk)
  | step _ hi ih => exact .step ih hi

theorem creach_iff {c : Ctx} {fm : List FirstSet} {KC KC' : Core → Prop} (h : ∀ p, KC p ↔ KC' p) (q : Core) :
    CReach c fm KC q ↔ CReach c fm KC' q :=
  ⟨CReach.mono fun p => (h p).mp, CReach.mono fun p => (h p).mpr⟩

/-- `Reach` from a kernel given as a predicate -/
inductive PClos (c : Ctx) (fm : List FirstSet) (K : Item → Prop) : Item → Prop
  | base {x} : K x → PClos c fm K x
  | step {x y imp} : PClos c fm K x → impliedItems c fm x = some imp → y ∈ imp → PClos c fm K y

theorem Reach.pclos {c : Ctx} {fm : List FirstSet} {K : List Item} {y : Item} (h : Reach c fm K y) :
    PClos c fm (· ∈ K) y := by
  induction h with
  | kernel hk => exact .base hk
  | step _ himp hyi ih => exact .step ih himp hyi

theorem PClos.creach {c : Ctx} {fm : List FirstSet} {K : Item → Prop} {y : Item} (h : PClos c fm K y) :
    CReach c fm (coresP K) (coreOf y) := by
  induction h with
  | base hk => exact .kernel ⟨_, hk, rfl⟩
  | step _ himp hyi ih => exact .step ih ((implied_cores himp _).mp ⟨_, hyi, rfl⟩)

theorem CReach.exists_item {c : Ctx} {fm : List FirstSet} {KC : Core → Prop} {S : Item → Prop}
    (hK : ∀ p, KC p → coresP S p) (hcl : ∀ x, S x → ∀ imp, impliedItems c fm x = some imp → ∀ y ∈ imp, S y)
    (ht : ∀ x, S x → ∃ imp, impliedItems c fm x = some imp) {q : Core} (h : CReach c fm KC q) : coresP S q := by
  induction h with
  | kernel hk => exact hK _ hk
  | step _ hi ih =>
    obtain ⟨x, hx, rfl⟩ := ih
    obtain ⟨imp, himp⟩ := ht x hx
    obtain ⟨y, hy, e⟩ := (implied_cores himp _).mpr hi
    exact ⟨y, hcl x hx imp himp y hy, e⟩

theorem pclos_cores {c : Ctx} {fm : List FirstSet} {K : Item → Prop}
    (ht : ∀ x, ∃ imp, impliedItems c fm x = some imp) (q : Core) :
    coresP (PClos c fm K) q ↔ CReach c fm (coresP K) q :=
  ⟨fun ⟨_, hy, e⟩ => e ▸ hy.creach,
    CReach.exists_item (fun _ ⟨x, hx, e⟩ => ⟨x, .base hx, e⟩) (fun _ hx _ himp _ hy => .step hx himp hy) fun x _ => ht x⟩

/-- the cores of a closed, kernel-generated set are exactly the cores generated from the kernel's cores -/
theorem closure_cores {c : Ctx} {fm : List FirstSet} {K S : List Item}
    (hK : ∀ x ∈ K, x ∈ S) (hcl : Closed c fm S) (hr : ∀ y ∈ S, Reach c fm K y)
    (ht : ∀ x ∈ S, ∃ imp, impliedItems c fm x = some imp) (q : Core) :
    (∃ y ∈ S, coreOf y = q) ↔ CReach c fm (fun p => ∃ x ∈ K, coreOf x = p) q :=
  ⟨fun ⟨y, hy, e⟩ => e ▸ (hr y hy).pclos.creach,
    CReach.exists_item (S := (· ∈ S)) (fun _ ⟨x, hx, e⟩ => ⟨x, hK x hx, e⟩) hcl ht⟩

theorem symRightOfDot_core {c : Ctx} {x y : Item} (h : coreOf x = coreOf y) : symRightOfDot c x = symRightOfDot c y := by
  simp only [coreOf, Prod.mk.injEq] at h
  unfold symRightOfDot
  rw [h.1, h.2]

/-- `transitionItems` for a predicate: the items of `I` with `X` right of the dot, the dot moved over it -/
def Moved (c : Ctx) (I : Item → Prop) (X : Sym Nat Nat) : Item → Prop :=
  fun y => ∃ x, I x ∧ symRightOfDot c x = some X ∧ y = { x with dot := x.dot + 1 }

theorem mem_transitionItems {c : Ctx} {S : State} {X : Sym Nat Nat} {y : Item} :
    y ∈ transitionItems c S X ↔ ∃ x ∈ S, symRightOfDot c x = some X ∧ y = { x with dot := x.dot + 1 } := by
  simp [transitionItems, eq_comm]

theorem Moved.cores_mono {c : Ctx} {I J : Item → Prop} (X : Sym Nat Nat) (h : ∀ p, coresP I p → coresP J p) (p : Core)
    (hp : coresP (Moved c I X) p) : coresP (Moved c J X) p := by
  obtain ⟨_, ⟨x, hx, hs, rfl⟩, rfl⟩ := hp
  obtain ⟨x2, hx2, e⟩ := h _ ⟨x, hx, rfl⟩
  refine ⟨{ x2 with dot := x2.dot + 1 }, ⟨x2, hx2, symRightOfDot_core e ▸ hs, rfl⟩, ?_⟩
  simp only [coreOf, Prod.mk.injEq] at e ⊢
  exact ⟨e.1, by rw [e.2]⟩

theorem moved_cores {c : Ctx} {I : Item → Prop} {S : State} (X : Sym Nat Nat) (h : SameCoresPS I S) (p : Core) :
    coresP (Moved c I X) p ↔ ∃ y ∈ transitionItems c S X, coreOf y = p := by
  have e : (∃ y ∈ transitionItems c S X, coreOf y = p) ↔ coresP (Moved c (· ∈ S) X) p := by
    simp only [coresP, Moved, mem_transitionItems]
  rw [e]
  exact ⟨Moved.cores_mono X (fun q => (h q).mp) p, Moved.cores_mono X (fun q => (h q).mpr) p⟩

theorem transitionItems_cores {c : Ctx} {A B : State} (X : Sym Nat Nat) (h : SameCores A B) (p : Core) :
    (∃ x ∈ transitionItems c A X, coreOf x = p) ↔ (∃ x ∈ transitionItems c B X, coreOf x = p) :=
  (moved_cores X (I := (· ∈ A)) (SameCores.refl A) p).symm.trans (moved_cores X (I := (· ∈ A)) h p)

end Machine
end KikiVerif
