/-
Conflicts of the generated automaton = conflicts of the LALR(1) automaton in the textbook sense
(`genuine_iff_lalrConflict`): the automaton built by `validated_ast_to_machine` has two items of one state demanding
different actions on a column (`Table.Genuine`, what `machine_to_table` reports) iff two canonical LR(1) states
with the same cores hold items that want (`Machine.want`) different things on one column.  Uses the two halves of
`lalr_exact` (`canon_in_machine` with `canon_sub`, `machine_in_canon`) and `MachineOK.done` (every symbol right of a dot has its transition, so a wanted shift has a destination).
-/
import KikiVerif.Proofs.Canonical
import KikiVerif.Proofs.Table

namespace KikiVerif
namespace Machine
open KikiVerif.Table KikiVerif.LR

/-- an LALR(1) conflict of the grammar: two canonical LR(1) states that are merged (same cores) hold items that
want different actions on the same lookahead column -/
def LalrConflict (c : Ctx) (fm : List FirstSet) : Prop :=
  ∃ (I1 I2 : Item → Prop) (y1 y2 : Item) (col : Nat) (w1 w2 : Want),
    CanonState c fm I1 ∧ CanonState c fm I2 ∧ (∀ p, coresP I1 p ↔ coresP I2 p) ∧ I1 y1 ∧ I2 y2 ∧
    want c y1 = some (col, w1) ∧ want c y2 = some (col, w2) ∧ w1 ≠ w2

variable {c : Ctx} {fm : List FirstSet} {m : Machine}

theorem want_kind {it : Item} {col : Nat} {w : Want} (h : want c it = some (col, w)) :
    w ≠ .err ∧ (w = .shift → symRightOfDot c it = some (.t col)) := by
  unfold want at h
  split at h
  · split at h <;> simp at h
    simp [← h.2]
  · rename_i h1
    cases hr : c.g.rules[it.rule]? with
    | none => simp [hr] at h
    | some r =>
      simp only [hr] at h
      split at h
      · simp at h; simp [← h.2]
      · cases hs : r.rhs[it.dot]? with
        | none => simp [hs] at h
        | some X =>
          cases X <;> simp [hs] at h
          obtain ⟨rfl, rfl⟩ := h
          simp [symRightOfDot, rhsOf, h1, hr, hs]

theorem want_demand (mok : MachineOK c fm m) {s : Nat} (hs : s < m.states.length) {it : Item}
    (hit : it ∈ m.states.getD s []) {col : Nat} {w : Want} (h : want c it = some (col, w)) :
    ∃ a, demand c m s it = some (col, a) ∧ kindOf a = w := by
  rw [demand_eq, h]
  cases w with
  | shift =>
    -- the wanted shift has a destination: the symbol right of the dot has its transition
    obtain ⟨t', htr, _⟩ := mok.done s hs it hit _ ((want_kind h).2 rfl)
    exact ⟨.shift t', by simp [actOf, getShiftDest_of_mem mok.func htr], rfl⟩
  | reduce r => exact ⟨_, rfl, rfl⟩
  | accept => exact ⟨_, rfl, rfl⟩
  | err => exact absurd rfl (want_kind h).1

/-- the two reported items themselves are an LALR(1) conflict of the grammar: each lies in a canonical LR(1) state
with the cores of the reported state, and they want different actions on one column -/
theorem genuine_lalr (ok : Assemble.CtxOK c) (hlen : fm.length = c.nN) (mok : MachineOK c fm m) {s : Nat} {e n : Item}
    (h : Genuine c m s e n) :
    ∃ (I1 I2 : Item → Prop) (col : Nat) (w1 w2 : Want),
      CanonState c fm I1 ∧ CanonState c fm I2 ∧ SameCoresPS I1 (m.states.getD s []) ∧
      SameCoresPS I2 (m.states.getD s []) ∧ I1 e ∧ I2 n ∧
      want c e = some (col, w1) ∧ want c n = some (col, w2) ∧ w1 ≠ w2 := by
  obtain ⟨⟨st, hst, he, hn⟩, col, ae, an, hde, hdn, hne⟩ := h
  obtain ⟨hs, rfl⟩ := List.getElem?_eq_some_iff.mp hst
  rw [← List.getD_of_lt (d := []) hs] at he hn
  obtain ⟨I1, hI1, hsc1, hy1⟩ := machine_in_canon ok hlen mok (mok.just s hs e he)
  obtain ⟨I2, hI2, hsc2, hy2⟩ := machine_in_canon ok hlen mok (mok.just s hs n hn)
  have hw1 := (demand_want hde).1
  have hw2 := (demand_want hdn).1
  refine ⟨I1, I2, col, kindOf ae, kindOf an, hI1, hI2, hsc1, hsc2, hy1, hy2, hw1, hw2, fun hk => hne ?_⟩
  -- the same kind on the same column of the same state is the same action
  rw [demand_eq, hw1] at hde
  rw [demand_eq, hw2, ← hk, hde] at hdn
  exact (Prod.mk.inj (Option.some.inj hdn)).2

theorem genuine_iff_lalrConflict (ok : Assemble.CtxOK c) (hlen : fm.length = c.nN) (mok : MachineOK c fm m) :
    (∃ s e n, Genuine c m s e n) ↔ LalrConflict c fm := by
  constructor
  · rintro ⟨s, e, n, h⟩
    obtain ⟨I1, I2, col, w1, w2, hI1, hI2, hsc1, hsc2, hy1, hy2, hw1, hw2, hne⟩ := genuine_lalr ok hlen mok h
    exact ⟨I1, I2, e, n, col, w1, w2, hI1, hI2, fun p => (hsc1 p).trans (hsc2 p).symm, hy1, hy2, hw1, hw2, hne⟩
  · rintro ⟨I1, I2, y1, y2, col, w1, w2, hI1, hI2, hcores, hy1, hy2, hw1, hw2, hne⟩
    obtain ⟨s, hs, hsc1, hin1⟩ := canon_in_machine ok hlen mok hI1
    have hin2 := canon_sub ok hlen mok hI2 hs fun p => (hcores p).symm.trans (hsc1 p)
    obtain ⟨a1, hd1, hk1⟩ := want_demand mok hs (hin1 y1 hy1) hw1
    obtain ⟨a2, hd2, hk2⟩ := want_demand mok hs (hin2 y2 hy2) hw2
    refine ⟨s, y1, y2, ⟨m.states.getD s [], ?_, hin1 y1 hy1, hin2 y2 hy2⟩, col, a1, a2, hd1, hd2, ?_⟩
    · exact List.getElem?_eq_some_getD hs []
    · intro e; apply hne; rw [← hk1, ← hk2, e]

end Machine
end KikiVerif
