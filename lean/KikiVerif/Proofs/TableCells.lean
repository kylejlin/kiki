/-
What is in the cells of the table `machine_to_table` returns: exactly the demands of the items (ACTION) and
the nonterminal transitions (GOTO), and the error action / `None` everywhere else.
-/
import KikiVerif.Proofs.Perm

namespace KikiVerif
namespace Table
open Machine
open LR (Sym Action)

structure Cells (c : Ctx) (m : Machine) (t : Table) : Prop where
  nT : t.nT = c.nT
  nN : t.nN = c.nN
  nStates : t.nStates = m.states.length
  start : t.start = m.start
  /-- every item's demand is in its cell -/
  demand : ∀ s st, m.states[s]? = some st → ∀ it ∈ st, ∀ col a, Table.demand c m s it = some (col, a) →
    t.action s col = a
  /-- every non-error cell is the demand of an item of its state -/
  justified : ∀ s col, col ≤ c.nT → t.action s col ≠ .err →
    ∃ st it, m.states[s]? = some st ∧ it ∈ st ∧ Table.demand c m s it = some (col, t.action s col)
  /-- GOTO cells are the nonterminal transitions -/
  gotoOf : ∀ tr ∈ m.transitions, ∀ b, tr.sym = .n b → t.goto tr.frm b = some tr.to
  gotoJust : ∀ s b to, b < c.nN → t.goto s b = some to → (⟨s, to, .n b⟩ : Transition) ∈ m.transitions
  alen : t.actions.length = m.states.length * (c.nT + 1)
  glen : t.gotos.length = m.states.length * c.nN

theorem mem_gotoEntries {trs : List Transition} {s b to : Nat} :
    ((s, b), to) ∈ gotoEntries trs ↔ (⟨s, to, .n b⟩ : Transition) ∈ trs := by
  unfold gotoEntries
  rw [List.mem_filterMap]
  constructor
  · rintro ⟨⟨f, t', X⟩, hm, he⟩
    cases X <;> simp at he
    obtain ⟨⟨rfl, rfl⟩, rfl⟩ := he
    exact hm
  · exact fun h => ⟨_, h, rfl⟩

theorem emptyTable_action (c : Ctx) (m : Machine) (s col : Nat) : (emptyTable c m).action s col = .err := by
  simp only [Table.action, emptyTable, List.getD_eq_getElem?_getD, List.getElem?_replicate]
  split <;> rfl

theorem emptyTable_goto (c : Ctx) (m : Machine) (s col : Nat) : (emptyTable c m).goto s col = none := by
  simp only [Table.goto, emptyTable, List.getD_eq_getElem?_getD, List.getElem?_replicate]
  split <;> rfl

theorem machineToTable_cells {c : Ctx} {m : Machine} {t : Table} (h : machineToTable c m = .ok t) :
    Cells c m t := by
  obtain ⟨tb, hres, hnd, hb⟩ := machineToTable_eq_ok.mp h
  have out := actions_outcome c m
  rw [hres] at out
  obtain ⟨acts, _⟩ := out
  rw [buildAsIs_eq] at hb
  simp only [Option.bind_eq_some_iff, Option.map_eq_some_iff] at hb
  obtain ⟨la, ha, lg, hg, rfl⟩ := hb
  obtain ⟨a1, a2, a3⟩ := gridFold_spec _ _ _ ha acts.keys
  obtain ⟨g1, g2, g3⟩ := gridFold_spec _ _ _ hg hnd
  simp only [emptyTable] at a1 a2 g1 g2
  have hact : ∀ s col, ({ emptyTable c m with actions := la, gotos := lg } : Table).action s col =
      (la[s * (c.nT + 1) + col]?).getD .err := fun s col => List.getD_eq_getElem?_getD
  have hgoto : ∀ s col, ({ emptyTable c m with actions := la, gotos := lg } : Table).goto s col =
      (lg[s * c.nN + col]?).getD none := fun s col => List.getD_eq_getElem?_getD
  refine
    { nT := rfl, nN := rfl, nStates := rfl, start := rfl
      demand := ?_, justified := ?_, gotoOf := ?_, gotoJust := ?_
      alen := by rw [a1, List.length_replicate]
      glen := by rw [g1, List.length_replicate] }
  · intro s st hst it hit col a hd
    obtain ⟨e, he⟩ := acts.recorded s it (mem_pairs.mpr ⟨st, hst, hit⟩) col a hd
    rw [hact, (a2 _ he).2.2]; rfl
  · intro s col hcol hne
    rw [hact] at hne ⊢
    by_cases hk : (s, col) ∈ tb.actions.map (·.1)
    · obtain ⟨⟨_, it, a⟩, he, rfl⟩ := List.mem_map.mp hk
      obtain ⟨hp, hd⟩ := acts.filled _ _ _ _ he
      obtain ⟨st, hst, hit⟩ := mem_pairs.mp hp
      rw [(a2 _ he).2.2]
      exact ⟨st, it, hst, hit, hd⟩
    · rw [show la[s * (c.nT + 1) + col]? = _ from a3 (s, col) (Nat.lt_succ_of_le hcol) hk,
        ← List.getD_eq_getElem?_getD] at hne
      exact absurd (emptyTable_action c m s col) hne
  · intro tr htr b hb
    have : ((tr.frm, b), tr.to) ∈ gotoEntries m.transitions :=
      mem_gotoEntries.mpr (by cases tr; cases hb; exact htr)
    rw [hgoto, (g2 _ this).2.2]; rfl
  · intro s b to hb hgo
    rw [hgoto] at hgo
    by_cases hk : (s, b) ∈ (gotoEntries m.transitions).map (·.1)
    · obtain ⟨⟨_, to'⟩, he, rfl⟩ := List.mem_map.mp hk
      rw [(g2 _ he).2.2] at hgo
      cases hgo
      exact mem_gotoEntries.mp he
    · rw [show lg[s * c.nN + b]? = _ from g3 (s, b) hb hk, ← List.getD_eq_getElem?_getD] at hgo
      cases (emptyTable_goto c m s b).symm.trans hgo

end Table
end KikiVerif
