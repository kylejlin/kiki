/-
Termination of the front-end parse loop (`parser::parse`) on every token sequence: the potential of `LR/Halt`
is searched and checked, inside the kernel, for the tables the translator extracted from `parser.rs` on this run.
-/
import KikiVerif.LR.Halt
import KikiVerif.Model.FrontParse
import KikiVerif.Proofs.Run

namespace KikiVerif
namespace HaltFront
open LR

/-- the reductions of `parser.rs` admit a potential: checked by evaluation in the kernel on the extracted tables -/
theorem front_certified : Halt.certified FrontParse.frontCert FrontParse.armG = true := by decide +kernel

/-- steps after which `parser::parse` has stopped on `len` tokens -/
def parseBound (len : Nat) : Nat := Halt.stepBound FrontParse.frontCert FrontParse.armG len

theorem front_parse_stable (toks : List Token) :
    ∃ out, ∀ fuel, parseBound toks.length ≤ fuel → FrontParse.parse toks fuel = some out := by
  obtain ⟨r, hr⟩ := Halt.certified_halts front_certified (toks.map FrontParse.mkTok)
  rw [List.length_map] at hr
  exact ⟨_, fun fuel hf => Nat.add_sub_cancel' hf ▸ congrArg (Option.map _) (runCfg_mono _ _ _ hr _)⟩

/-- **`parser::parse` stops on every token sequence**, sentence or not, within `parseBound` steps -/
theorem front_parse_halts (toks : List Token) (k : Nat) :
    ∃ out, FrontParse.parse toks (parseBound toks.length + k) = some out :=
  (front_parse_stable toks).imp fun _ h => h _ (Nat.le_add_right _ _)

/-- the bound is linear in the number of tokens -/
theorem parseBound_linear (len : Nat) :
    parseBound len = (len + 1) * Halt.K (Halt.ccOf FrontParse.frontCert) (Halt.findPot FrontParse.frontCert FrontParse.armG) := rfl

end HaltFront
end KikiVerif
