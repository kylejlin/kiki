/-
C16, scanner side, as one statement: layout — `White_Space` characters and complete `//` comments — inserted at
any point the scanner passes through (the start of a token, of a whitespace character or of a comment: a *scan
point*) changes nothing but positions: the tokens before the point are the same, with the same positions; what
follows is the same result (tokens or lexical error) with every position moved by the length of the insertion.
-/
import KikiVerif.Proofs.Shift

namespace KikiVerif
namespace Spec
open Text Tokenize

/-- a character that can start layout: whitespace, or the `/` of a comment -/
def isSep (c : Char) : Bool := isWhitespace c || c = '/'

theorem sep_not_identChar {c : Char} (h : isSep c = true) : isIdentChar c = false := by
  simp only [isSep, Bool.or_eq_true, decide_eq_true_eq] at h
  rcases h with h | rfl
  · exact ws_not_identChar h
  · decide

theorem sep_ne_colon {c : Char} (h : isSep c = true) : c ≠ ':' := by
  rintro rfl; revert h; decide

/-- whitespace characters and complete comments -/
inductive Layout : Str → Prop
  | nil : Layout []
  | ws {c : Char} {L : Str} : isWhitespace c = true → Layout L → Layout (c :: L)
  | comment {body L : Str} : (∀ c ∈ body, c ≠ '\n') → Layout L → Layout ('/' :: '/' :: (body ++ '\n' :: L))

theorem scanFrom_comment (body rest : Str) (i : Nat) (h : ∀ c ∈ body, c ≠ '\n') :
    scanFrom ('/' :: '/' :: (body ++ '\n' :: rest)) i =
      scanFrom rest (i + blen ('/' :: '/' :: (body ++ ['\n']))) := by
  simpa using scanFrom_lex (.comment rest i h)

theorem scanFrom_layout {L : Str} (hL : Layout L) : ∀ (cs : Str) (i : Nat),
    scanFrom (L ++ cs) i = scanFrom cs (i + blen L) := by
  induction hL with
  | nil => intro cs i; rfl
  | @ws c L hc _ ih =>
    intro cs i
    rw [show c :: L ++ cs = [c] ++ (L ++ cs) from rfl, scanFrom_lex (.ws _ i hc), ih]
    simp [Nat.add_assoc]
  | @comment body L hb _ ih =>
    intro cs i
    rw [show '/' :: '/' :: (body ++ '\n' :: L) ++ cs = '/' :: '/' :: (body ++ '\n' :: (L ++ cs)) by simp,
      scanFrom_comment body _ i hb, ih]
    simp [Nat.add_assoc]

/-- **leading layout is irrelevant up to positions**: whatever whitespace precedes the rest of the input, and at
whatever offset, the scanner returns the same token kinds and payloads for the rest -/
theorem leading_whitespace_irrelevant (ws cs : Str) (i j : Nat) (h : ∀ c ∈ ws, isWhitespace c = true) :
    (match scanFrom (ws ++ cs) i with | .ok ts => some (ts.map erase) | _ => none) =
    (match scanFrom cs j with | .ok ts => some (ts.map erase) | _ => none) := by
  have hL : Layout ws := by
    induction ws with
    | nil => exact .nil
    | cons c ws ih => exact .ws (h c List.mem_cons_self) (ih fun x hx => h x (List.mem_cons_of_mem _ hx))
  rw [scanFrom_layout hL]
  exact scanFrom_erase_offset cs _ j

theorem layout_head {L : Str} (hL : Layout L) : L = [] ∨ ∃ w r, L = w :: r ∧ isSep w = true := by
  cases hL with
  | nil => exact .inl rfl
  | ws hc _ => exact .inr ⟨_, _, rfl, by simp [isSep, hc]⟩
  | comment _ _ => exact .inr ⟨_, _, rfl, by decide⟩

/-- what may stand behind a finished step without changing it: the same next character (or the end of the
input in both), or a character that starts layout -/
def Follows (a b : Str) : Prop := a.head? = b.head? ∨ ∃ w r, b = w :: r ∧ isSep w = true

theorem Follows.head {a b : Str} (hf : Follows a b) {P : Option Char → Prop} (ha : P a.head?)
    (hsep : ∀ w, isSep w = true → P (some w)) : P b.head? := by
  rcases hf with h | ⟨w, r, rfl, hw⟩
  · exact h ▸ ha
  · exact hsep w hw

/-- `next_local` in terms of `Lex`: a finished step stays what it is when what follows it is exchanged for something
that `Follows` -/
theorem Lex.local {w post post' : Str} {i k : Nat} {s : Step} (h : Lex w post i s)
    (hs : s = .skip k ∨ ∃ t, s = .emit t k) (hf : Follows post post') :
    Lex w post' i s ∨ ∃ body, (∀ x ∈ body, x ≠ '\n') ∧ w = '/' :: '/' :: body ∧ post = [] ∧ s = .skip k := by
  have notId (ho : ∀ x ∈ post.head?, isIdentChar x = false) : ∀ x ∈ post'.head?, isIdentChar x = false :=
    hf.head (P := fun o => ∀ x ∈ o, isIdentChar x = false) ho (by rintro w hw _ ⟨⟩; exact sep_not_identChar hw)
  cases h with
  | ws _ _ h => exact .inl (.ws _ _ h)
  | comment _ _ h => exact .inl (.comment _ _ h)
  | commentEof _ h => exact .inr ⟨_, h, rfl, rfl, by simpa using hs⟩
  | ident _ hc ht hp => exact .inl (.ident _ hc ht (notId hp))
  | termIdent _ hd ht hp hr => exact .inl (.termIdent _ hd ht (notId hp) hr)
  | dcolon => exact .inl (.dcolon _ _)
  | colon _ h => exact .inl (.colon _ (hf.head (P := (· ≠ some ':')) h fun w hw e => sep_ne_colon hw (Option.some.inj e)))
  | attr _ h => exact .inl (.attr _ ((attrBody_local _ _ _ _ _ h).2 _))
  | punct _ _ hc hp => exact .inl (.punct _ _ hc hp)
  | _ => simp at hs

/-- **one scanner step is local**: it is determined by the characters it consumes and by whether the character
behind them continues it — the same next character, or one that starts layout, leaves the step as it is (except
a comment that runs to the end of the input, which swallows whatever is put behind it) -/
theorem next_local (c : Char) (rest rest' : Str) (i k : Nat)
    (hstep : next (c :: rest) i = .skip k ∨ ∃ t, next (c :: rest) i = .emit t k)
    (htake : rest'.take k = rest.take k)
    (hf : Follows (rest.drop k) (rest'.drop k))
    (hopen : ¬ ∃ body, c :: rest = '/' :: '/' :: body ∧ ∀ x ∈ body, x ≠ '\n') :
    next (c :: rest') i = next (c :: rest) i := by
  obtain ⟨w, post, e, hl⟩ := next_spec (c :: rest) i
  have hlen := hl.length hstep
  have hw : w = c :: rest.take k := by
    have := congrArg (List.take (k + 1)) e
    rwa [List.take_left' hlen, eq_comm] at this
  have hp : post = rest.drop k := by
    have := congrArg (List.drop (k + 1)) e
    rwa [List.drop_left' hlen, eq_comm] at this
  have e' : c :: rest' = w ++ rest'.drop k := by
    rw [hw, ← htake, List.cons_append, List.take_append_drop]
  rcases hl.local hstep (hp ▸ hf) with hl' | ⟨body, hb, rfl, rfl, _⟩
  · rw [e', e, hl'.eq, hl.eq]
  · exact absurd ⟨body, by simpa using e, hb⟩ hopen

/-- scanning `cs` (which starts at offset `i`) emits `ts` and then stands at the suffix `cs'` (offset `i'`):
`cs'` starts at a *scan point* of `cs` — the start of a token, of a whitespace character or of a comment -/
inductive Reach : Str → Nat → List Token → Str → Nat → Prop
  | refl (cs : Str) (i : Nat) : Reach cs i [] cs i
  | skip {cs : Str} {i k : Nat} {ts : List Token} {cs' : Str} {i' : Nat} : next cs i = .skip k →
      Reach (cs.drop (k + 1)) (i + blen (cs.take (k + 1))) ts cs' i' → Reach cs i ts cs' i'
  | emit {cs : Str} {i k : Nat} {t : Token} {ts : List Token} {cs' : Str} {i' : Nat} : next cs i = .emit t k →
      Reach (cs.drop (k + 1)) (i + blen (cs.take (k + 1))) ts cs' i' → Reach cs i (t :: ts) cs' i'

/-- the tokens before the point, then whatever the rest gives -/
def combine (ts : List Token) : Res (List Token) → Res (List Token)
  | .ok ts' => .ok (ts ++ ts')
  | .err e => .err e
  | .panic s => .panic s

theorem reach_scan {cs : Str} {i : Nat} {ts : List Token} {cs' : Str} {i' : Nat} (h : Reach cs i ts cs' i') :
    scanFrom cs i = combine ts (scanFrom cs' i') := by
  induction h with
  | refl cs i => cases scanFrom cs i <;> rfl
  | skip hn _ ih => rw [scanFrom_skip hn, ih]
  | emit hn _ ih => rw [scanFrom_emit hn, ih]; cases scanFrom _ _ <;> rfl

theorem open_comment_layout {L : Str} (hL : Layout L) : ∀ (body : Str) (i : Nat), (∀ c ∈ body, c ≠ '\n') →
    scanFrom ('/' :: '/' :: (body ++ L)) i = .ok [] := by
  induction hL with
  | nil =>
    intro body i hb
    have := scanFrom_lex (.commentEof i hb)
    rw [List.append_nil] at this ⊢
    exact this.trans (scanFrom_done rfl)
  | @ws c L hc hL' ih =>
    intro body i hb
    by_cases hn : c = '\n'
    · subst hn
      rw [scanFrom_comment body L i hb, ← L.append_nil, scanFrom_layout hL']
      exact scanFrom_done rfl
    · rw [show body ++ c :: L = (body ++ [c]) ++ L by simp]
      exact ih _ i (by simpa [or_imp, forall_and, hn] using hb)
  | @comment b L hb' hL' _ =>
    intro body i hb
    rw [show body ++ '/' :: '/' :: (b ++ '\n' :: L) = (body ++ '/' :: '/' :: b) ++ '\n' :: L by simp,
      scanFrom_comment _ L i (by
        simp only [List.mem_append, List.mem_cons]
        rintro x (h | rfl | rfl | h)
        · exact hb x h
        · decide
        · decide
        · exact hb' x h), ← L.append_nil, scanFrom_layout hL']
    exact scanFrom_done rfl

theorem shiftRes_ok_nil (d : Nat) : shiftRes d (.ok []) = .ok [] := rfl

theorem reach_nil {i : Nat} {ts : List Token} {cs' : Str} {i' : Nat} (h : Reach [] i ts cs' i') :
    ts = [] ∧ cs' = [] := by
  cases h with
  | refl => exact ⟨rfl, rfl⟩
  | skip hn _ => cases hn
  | emit hn _ => cases hn

/-- **layout at a scan point changes nothing but positions**: if scanning `cs` emits `ts` and then stands at the
suffix `cs'`, then `cs = pre ++ cs'`, and with any layout `L` put in at that point the scanner emits the same `ts`
(same positions) and then gives what `cs'` gives, every position moved by the length of `L` — tokens, or the same
lexical error -/
theorem insert_layout {cs : Str} {i : Nat} {ts : List Token} {cs' : Str} {i' : Nat} (h : Reach cs i ts cs' i')
    {L : Str} (hL : Layout L) :
    ∃ pre, cs = pre ++ cs' ∧ scanFrom (pre ++ L ++ cs') i = combine ts (shiftRes (blen L) (scanFrom cs' i')) := by
  -- what follows a step still follows it when `L` is put in further behind, or right behind it
  have follows : ∀ pre1 : Str, Follows (pre1 ++ cs') (pre1 ++ L ++ cs') := by
    intro pre1
    cases pre1 with
    | cons x xs => exact .inl rfl
    | nil =>
      rcases layout_head hL with rfl | ⟨w, r, rfl, hw⟩
      · exact .inl rfl
      · exact .inr ⟨w, r ++ cs', rfl, hw⟩
  induction h with
  | refl cs i =>
    refine ⟨[], rfl, ?_⟩
    rw [List.nil_append, scanFrom_layout hL, scanFrom_shift]
    cases shiftRes (blen L) (scanFrom cs i) <;> rfl
  | @skip cs i k ts cs' i' hn hreach ih =>
    obtain ⟨w, post, rfl, hl⟩ := next_spec cs i
    have hlen := hl.length (.inl hn)
    rw [List.drop_left' hlen, List.take_left' hlen] at ih hreach
    obtain ⟨pre1, rfl, h1⟩ := ih follows
    rcases hl.local (.inl hn) (follows pre1) with hl' | ⟨body, hb, rfl, hp, _⟩
    · refine ⟨w ++ pre1, by simp, ?_⟩
      rw [hn] at hl'
      rw [show w ++ pre1 ++ L ++ cs' = w ++ (pre1 ++ L ++ cs') by simp, scanFrom_lex hl', h1]
    · -- the comment runs to the end of the input
      rw [hp] at hreach
      obtain ⟨rfl, rfl⟩ := reach_nil hreach
      obtain rfl : pre1 = [] := by simpa using hp
      refine ⟨_, rfl, ?_⟩
      rw [List.append_nil, List.cons_append, List.cons_append, open_comment_layout hL body i hb, scanFrom_done rfl]
      rfl
  | @emit cs i k t ts cs' i' hn hreach ih =>
    obtain ⟨w, post, rfl, hl⟩ := next_spec cs i
    have hlen := hl.length (.inr ⟨t, hn⟩)
    rw [List.drop_left' hlen, List.take_left' hlen] at ih
    obtain ⟨pre1, rfl, h1⟩ := ih follows
    rcases hl.local (.inr ⟨t, hn⟩) (follows pre1) with hl' | ⟨_, _, _, _, hs⟩
    · refine ⟨w ++ pre1, by simp, ?_⟩
      rw [hn] at hl'
      rw [show w ++ pre1 ++ L ++ cs' = w ++ (pre1 ++ L ++ cs') by simp, scanFrom_lex hl', h1]
      cases shiftRes (blen L) (scanFrom cs' i') <;> rfl
    · rw [hn] at hs; cases hs

/-- in terms of the results: with layout put in at a scan point, a successful scan stays successful with the same
tokens up to positions (those before the point keep theirs), and a lexical error stays the same error, moved by
the length of the layout -/
theorem insert_layout_result {cs : Str} {i : Nat} {ts : List Token} {cs' : Str} {i' : Nat}
    (h : Reach cs i ts cs' i') {L : Str} (hL : Layout L) :
    ∃ pre, cs = pre ++ cs' ∧
      (∀ t1, scanFrom cs i = .ok t1 → ∃ tp, t1 = ts ++ tp ∧
        scanFrom (pre ++ L ++ cs') i = .ok (ts ++ tp.map (shiftTok (blen L)))) ∧
      (∀ j c, scanFrom cs i = .err (.lex j c) → scanFrom (pre ++ L ++ cs') i = .err (.lex (j + blen L) c)) := by
  obtain ⟨pre, e, hs⟩ := insert_layout h hL
  rw [reach_scan h]
  refine ⟨pre, e, ?_, ?_⟩ <;> cases hp : scanFrom cs' i' <;> simp_all [combine, shiftRes]

end Spec
end KikiVerif
