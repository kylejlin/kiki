/-
`validated_ast_to_machine` cannot panic on a well-formed coded grammar (`CtxOK`): it never hits a FIRST-map `unwrap`
or an `index_map[i]` that fails (`machineOf c fuel ≠ some none`).
-/
import KikiVerif.Proofs.Build

namespace KikiVerif

namespace NoPanic
open Machine Assemble
open LR (Sym Rule Grammar)

def SeqOK (c : Ctx) (β : List (Sym Nat Nat)) : Prop := ∀ b, Sym.n b ∈ β → b < c.nN

theorem currentFirst_some {c : Ctx} {fm : List FirstSet} (hlen : fm.length = c.nN) (β : List (Sym Nat Nat))
    (out : FirstSet) (hβ : SeqOK c β) : ∃ cur, currentFirst fm β out = some cur := by
  fun_induction currentFirst fm β out with
  | case1 => exact ⟨_, rfl⟩
  | case2 => exact ⟨_, rfl⟩
  | case3 b _ _ hb =>
    have := hβ b List.mem_cons_self
    rw [List.getElem?_eq_none_iff] at hb
    omega
  | case4 _ _ _ _ _ _ _ ih => exact ih fun b' hb' => hβ b' (List.mem_cons_of_mem _ hb')
  | case5 => exact ⟨_, rfl⟩

theorem expand_some {c : Ctx} (rules : List (Rule Nat Nat)) (fm : List FirstSet) (ch : Bool)
    (hlen : fm.length = c.nN) (hr : ∀ r ∈ rules, r.lhs < c.nN ∧ SeqOK c r.rhs) :
    ∃ r, expand rules fm ch = some r ∧ r.1.length = c.nN := by
  fun_induction expand rules fm ch with
  | case1 fm ch => exact ⟨_, rfl, hlen⟩
  | case2 r _ fm _ h =>
    obtain ⟨cur, hcur⟩ := currentFirst_some hlen r.rhs ⟨[], true⟩ (hr r List.mem_cons_self).2
    have hlt : r.lhs < fm.length := hlen ▸ (hr r List.mem_cons_self).1
    simp [expandRule, hcur, List.getElem?_eq_getElem hlt] at h
  | case3 r _ fm _ fm' _ h ih =>
    refine ih ?_ fun r' hr' => hr r' (List.mem_cons_of_mem _ hr')
    unfold expandRule at h
    split at h
    · cases h; simpa using hlen
    · cases h

theorem firstLoop_no_panic {c : Ctx} (rules : List (Rule Nat Nat)) (hr : ∀ r ∈ rules, r.lhs < c.nN ∧ SeqOK c r.rhs)
    (fuel : Nat) (fm : List FirstSet) (hlen : fm.length = c.nN) : firstLoop rules fuel fm ≠ some none := by
  fun_induction firstLoop rules fuel fm with
  | case1 => nofun
  | case2 _ fm h => obtain ⟨_, he, _⟩ := expand_some rules fm false hlen hr; rw [h] at he; cases he
  | case3 _ fm _ h ih => obtain ⟨_, he, hl⟩ := expand_some rules fm false hlen hr; rw [h] at he; cases he; exact ih hl
  | case4 => nofun

theorem firstSets_no_panic {c : Ctx} (ok : CtxOK c) (fuel : Nat) : firstSets c fuel ≠ some none :=
  firstLoop_no_panic _ (fun r hr => ⟨ok.lhs r hr, ok.nts r hr⟩) fuel _ (by simp [emptyFirst])

theorem rhsOf_seqOK {c : Ctx} (ok : CtxOK c) (rule : Nat) : SeqOK c (rhsOf c rule) := by
  intro b hb
  rcases mem_rhsOf hb with h | ⟨r, hr, h⟩
  · cases h; exact ok.start
  · exact ok.nts r hr b h

theorem impliedItems_some {c : Ctx} {fm : List FirstSet} (ok : CtxOK c) (hlen : fm.length = c.nN) (x : Item) :
    ∃ imp, impliedItems c fm x = some imp := by
  unfold impliedItems
  split
  · obtain ⟨f, hf⟩ := currentFirst_some hlen ((rhsOf c x.rule).drop (x.dot + 1)) ⟨[], true⟩
      (fun b hb => rhsOf_seqOK ok x.rule b (List.mem_of_mem_drop hb))
    rw [← firstOfSeq_eq fm _ [] List.Pairwise.nil] at hf
    simp only [augmentedFirst, hf]
    cases f.eps <;> exact ⟨_, rfl⟩
  · exact ⟨_, rfl⟩

theorem closureLoop_no_panic {c : Ctx} {fm : List FirstSet} (ok : CtxOK c) (hlen : fm.length = c.nN)
    (fuel : Nat) (q : List Item) (acc : Oset Item) : closureLoop c fm fuel q acc ≠ some none := by
  fun_induction closureLoop c fm fuel q acc with
  | case1 | case2 => nofun
  | case3 _ _ _ _ _ ih | case5 _ _ _ _ _ _ _ ih => exact ih
  | case4 _ q _ _ _ himp => obtain ⟨imp, h⟩ := impliedItems_some ok hlen q (fm := fm); rw [h] at himp; cases himp

theorem enqueueTargets_no_panic {c : Ctx} {fm : List FirstSet} (ok : CtxOK c) (hlen : fm.length = c.nN) (cf i : Nat)
    (ks : List Nat) (b : Builder) : enqueueTargets c fm cf i ks b ≠ some none := by
  fun_induction enqueueTargets c fm cf i ks b with
  | case1 | case2 => nofun
  | case3 _ _ _ hstep =>
    unfold enqueueTransitionTarget at hstep
    dsimp only at hstep
    split at hstep
    · cases hstep
    · rename_i hcl; exact absurd hcl (closureLoop_no_panic ok hlen _ _ _)
    · cases hstep
  | case4 _ _ _ _ _ ih => exact ih

theorem buildLoop_no_panic {c : Ctx} {fm : List FirstSet} (ok : CtxOK c) (hlen : fm.length = c.nN) (cf : Nat)
    (fuel : Nat) (b : Builder) : buildLoop c fm cf fuel b ≠ some none := by
  fun_induction buildLoop c fm cf fuel b with
  | case1 | case2 | case3 => nofun
  | case4 _ _ _ _ _ _ h => exact absurd h (enqueueTargets_no_panic ok hlen _ _ _ _)
  | case5 _ _ _ _ _ _ _ _ ih => exact ih

theorem updateIndex_some (states : List State) (i : Nat) (hi : i < states.length) :
    ∃ p, updateIndex (sortedIndexed states) i = some p := by
  have hperm : (sortedIndexed states).Perm states.zipIdx := List.mergeSort_perm _ _
  have hmem : (states[i], i) ∈ sortedIndexed states := by
    rw [hperm.mem_iff]
    exact List.mk_mem_zipIdx_iff_getElem?.mpr (List.getElem?_eq_getElem hi)
  unfold updateIndex
  cases hf : (sortedIndexed states).findIdx? (fun p => p.2 == i) with
  | some p => exact ⟨p, rfl⟩
  | none =>
    have := List.findIdx?_eq_none_iff.mp hf _ hmem
    simp at this

theorem normalize_some {b : Builder} (hne : 0 < b.states.length)
    (ht : ∀ t ∈ b.transitions, t.frm < b.states.length ∧ t.to < b.states.length) : ∃ m, normalize b = some m := by
  obtain ⟨p0, e0⟩ := updateIndex_some b.states 0 hne
  unfold normalize
  simp only
  split
  · exact ⟨_, rfl⟩
  · rename_i hnot
    refine (hnot _ _ (Option.eq_some_of_isSome (List.isSome_mapM.mpr fun t htm => ?_)) e0).elim
    obtain ⟨p1, e1⟩ := updateIndex_some b.states t.frm (ht t htm).1
    obtain ⟨p2, e2⟩ := updateIndex_some b.states t.to (ht t htm).2
    rw [e1, e2]; rfl

/-- **`validated_ast_to_machine` never panics** (it returns a machine, or runs out of the model's fuel) -/
theorem machineOf_no_panic {c : Ctx} (ok : CtxOK c) (fuel : Nat) : machineOf c fuel ≠ some none := by
  intro h
  unfold machineOf at h
  split at h
  · cases h
  · rename_i hfm
    exact firstSets_no_panic ok fuel hfm
  · rename_i fm hfm
    have hlen : fm.length = c.nN := (firstSets_closed hfm).2.1
    have hfb := firstSets_bound ok.terms hfm
    split at h
    · cases h
    · rename_i hcl
      exact closureLoop_no_panic ok hlen _ _ _ hcl
    · rename_i start hstart
      have inv0 := initial_inv ok.terms hfb hstart
      split at h
      · cases h
      · rename_i hb
        exact buildLoop_no_panic ok hlen _ _ _ hb
      · rename_i b hb
        obtain ⟨inv, _⟩ := buildLoop_spec ok.terms hfb _ _ _ inv0 hb
        obtain ⟨m, hm⟩ := normalize_some inv.nonempty (fun t ht => ⟨(inv.trans t ht).frm, (inv.trans t ht).to⟩)
        rw [hm] at h
        cases h

end NoPanic
end KikiVerif
