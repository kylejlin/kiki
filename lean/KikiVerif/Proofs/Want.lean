/-
What an LR(1) item asks of a parser, without reference to a machine: the kind of action (`Want`) and the lookahead
column it is asked on (`want`).  A module of its own: in one module with `Table.demand`, Lean shares the `match`
auxiliaries of the two definitions, and the elaborated body of one would name those of the other.
-/
import KikiVerif.Model.Table

namespace KikiVerif
namespace Machine
open LR (Sym Action)

inductive Want where
  | shift | reduce (r : Nat) | accept | err
  deriving DecidableEq, Repr

def kindOf : Action → Want
  | .shift _ => .shift
  | .reduce r => .reduce r
  | .accept => .accept
  | .err => .err

/-- what an LR(1) item wants, and on which lookahead column (machine-independent counterpart of `Table.demand`) -/
def want (c : Ctx) (it : Item) : Option (Nat × Want) :=
  if it.rule = c.numRules then
    if it.dot = 0 then none else some (c.nT, .accept)
  else
    match c.g.rules[it.rule]? with
    | none => none
    | some r =>
      if it.dot = r.rhs.length then some (it.la, .reduce it.rule)
      else match r.rhs[it.dot]? with
        | some (.t t) => some (t, .shift)
        | _ => none

variable {c : Ctx}

theorem want_rightOfDot {it : Item} (h1 : it.rule ≤ c.numRules) (h2 : it.dot ≤ (rhsOf c it.rule).length) :
    want c it = match symRightOfDot c it with
      | some (.t a) => some (a, .shift)
      | some (.n _) => none
      | none => if it.rule = c.numRules then some (c.nT, .accept) else some (it.la, .reduce it.rule) := by
  unfold want symRightOfDot
  unfold rhsOf at h2 ⊢
  by_cases e : it.rule = c.numRules
  · simp only [e, if_true, List.length_singleton] at h2 ⊢
    by_cases d0 : it.dot = 0
    · simp [d0]
    · have : it.dot = 1 := by omega
      simp [this]
  · have hlt : it.rule < c.g.rules.length := by unfold Ctx.numRules at h1 e; omega
    simp only [e, if_false, List.getElem?_eq_getElem hlt] at h2 ⊢
    by_cases dl : it.dot = c.g.rules[it.rule].rhs.length
    · simp [dl]
    · have hd : it.dot < c.g.rules[it.rule].rhs.length := by omega
      simp only [dl, if_false, List.getElem?_eq_getElem hd]
      cases c.g.rules[it.rule].rhs[it.dot] <;> rfl

end Machine
end KikiVerif
