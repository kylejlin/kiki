/-
A second executable validator: `tightB g nN C = true → CoreSound g (mkAuto C) ∧ NonEmpty (mkAuto C)`
(given the length facts `validB` establishes).  `CoreSound` — every item of a state lies in the inductive
closure of the state's kernel — and `NonEmpty` are what the "consumed input is a viable prefix" theorem
(`LR/Extend.lean`, property C03) needs on top of `Sound` and `Complete`.
-/
import KikiVerif.Proofs.Valid
import KikiVerif.LR.Extend

namespace KikiVerif
namespace Valid
open LR

abbrev Core := Option Nat × Nat

/-- cores demanded by the closure step from one core: `[A → α·Bβ]` demands `[B → ·γ]` for every rule of `B` -/
def demandedBy (g : Grammar Nat Nat) (c : Core) : List Core :=
  match g.rhsOf c.1 with
  | none => []
  | some rhs =>
    match rhs[c.2]? with
    | some (.n B) => (g.rules.zipIdx.filter fun p => p.1.lhs == B).map fun p => (some p.2, 0)
    | _ => []

def addNew (acc : List Core) (cs : List Core) : List Core :=
  cs.foldl (fun acc c => if acc.contains c then acc else acc ++ [c]) acc

def closeStep (g : Grammar Nat Nat) (cores : List Core) : List Core := addNew cores (cores.flatMap (demandedBy g))

def closeCores (g : Grammar Nat Nat) : Nat → List Core → List Core
  | 0, cores => cores
  | n + 1, cores => closeCores g n (closeStep g cores)

/-- kernel cores of the target of `s --X-->`, computed from the source -/
def kernelCores (g : Grammar Nat Nat) (C : Cert) (s : Nat) (X : Sym Nat Nat) : List Core :=
  (C.items s).filterMap fun it =>
    match g.rhsOf it.rule with
    | none => none
    | some rhs => if rhs[it.dot]? == some X then some (it.rule, it.dot + 1) else none

def coresWithin (items : List It) (cores : List Core) : Bool := items.all fun it => cores.contains (it.rule, it.dot)

def tightTransB (g : Grammar Nat Nat) (C : Cert) (s : Nat) (X : Sym Nat Nat) : Bool :=
  match C.delta s X with
  | none => true
  | some t =>
    !(C.items t).isEmpty && coresWithin (C.items t) (closeCores g (g.rules.length + 1) (kernelCores g C s X))

def tightB (g : Grammar Nat Nat) (nN : Nat) (C : Cert) : Bool :=
  coresWithin (C.items C.start) (closeCores g (g.rules.length + 1) [(none, 0)]) &&
  (allStates C).all fun s => (allSyms C nN).all (tightTransB g C s)

/-! `closeCores` always runs `g.rules.length + 1` rounds, although the list stops growing after as many rounds as
the grammar's nonterminals nest; `closeCoresE` leaves the loop at the first round that adds nothing and returns the same
list (`closeCoresE_eq`); `Proofs/FrontTables` rewrites with that before it evaluates `tightB`, at a fraction of the
cost. -/

def closeCoresE (g : Grammar Nat Nat) : Nat → List Core → List Core
  | 0, cores => cores
  | n + 1, cores => if closeStep g cores = cores then cores else closeCoresE g n (closeStep g cores)

theorem closeCores_of_fixed {g : Grammar Nat Nat} {cores : List Core} (h : closeStep g cores = cores) :
    ∀ n, closeCores g n cores = cores
  | 0 => rfl
  | n + 1 => by rw [closeCores, h, closeCores_of_fixed h n]

theorem closeCoresE_eq (g : Grammar Nat Nat) : ∀ n cores, closeCoresE g n cores = closeCores g n cores
  | 0, _ => rfl
  | n + 1, cores => by
    rw [closeCoresE, closeCores]
    split
    · next h => rw [h, closeCores_of_fixed h]
    · exact closeCoresE_eq g n _

theorem mem_addNew {acc cs : List Core} {c : Core} (h : c ∈ addNew acc cs) : c ∈ acc ∨ c ∈ cs := by
  unfold addNew at h
  induction cs generalizing acc with
  | nil => exact Or.inl h
  | cons x xs ih =>
    rcases ih h with h1 | h1
    · by_cases hx : x ∈ acc
      · exact Or.inl (by simpa [hx] using h1)
      · exact (show c ∈ acc ∨ c = x by simpa [hx] using h1).imp_right fun e => by simp [e]
    · exact Or.inr (List.mem_cons_of_mem _ h1)

theorem demanded_reach {g : Grammar Nat Nat} {K : Option Nat → Nat → Prop} {c c' : Core}
    (hc : CoreReach g K c.1 c.2) (h : c' ∈ demandedBy g c) : CoreReach g K c'.1 c'.2 := by
  unfold demandedBy at h
  split at h
  · simp at h
  · rename_i rhs hr
    split at h
    · rename_i B hget
      simp only [List.mem_map, List.mem_filter, beq_iff_eq] at h
      obtain ⟨⟨rule, j⟩, ⟨hm, hl⟩, rfl⟩ := h
      simp only at hl
      subst hl
      exact .step hc hr hget (List.mem_zipIdx_iff_getElem?.mp hm)
    · simp at h

theorem closeCores_reach {g : Grammar Nat Nat} {K : Option Nat → Nat → Prop} :
    ∀ n (cores : List Core), (∀ c ∈ cores, CoreReach g K c.1 c.2) →
      ∀ c ∈ closeCores g n cores, CoreReach g K c.1 c.2 := by
  intro n
  induction n with
  | zero => exact fun _ h => h
  | succ n ih =>
    refine fun cores h => ih _ fun c hc => ?_
    rcases mem_addNew hc with h1 | h1
    · exact h c h1
    · obtain ⟨c0, hc0, hd⟩ := List.mem_flatMap.mp h1
      exact demanded_reach (h c0 hc0) hd

theorem coresWithin_mem {items : List It} {cores : List Core} (h : coresWithin items cores = true) {r d a}
    (hm : (⟨r, d, a⟩ : It) ∈ items) : (r, d) ∈ cores :=
  List.contains_iff_mem.mp (List.all_eq_true.mp h _ hm)

theorem mem_kernelCores {g : Grammar Nat Nat} {C : Cert} {s : Nat} {X : Sym Nat Nat} {c : Core}
    (h : c ∈ kernelCores g C s X) : ∃ d' a' rhs, c.2 = d' + 1 ∧ (⟨c.1, d', a'⟩ : It) ∈ C.items s ∧
      g.rhsOf c.1 = some rhs ∧ rhs[d']? = some X := by
  obtain ⟨⟨r', d', a'⟩, hm, he⟩ := List.mem_filterMap.mp h
  simp only at he
  split at he
  · cases he
  · rename_i rhs hr
    split at he
    · rename_i hget
      cases he
      exact ⟨d', a', rhs, rfl, hm, hr, by simpa using hget⟩
    · cases he

theorem tightB_sound {g : Grammar Nat Nat} {nN : Nat} {C : Cert} (h : tightB g nN C = true)
    (hlen : C.actions.length = C.states.length) (hglen : C.gotos.length = C.states.length)
    (hrows : ∀ row ∈ C.gotos, row.length ≤ nN) :
    CoreSound g (mkAuto C) ∧ NonEmpty (mkAuto C) := by
  simp only [tightB, Bool.and_eq_true, List.all_eq_true] at h
  obtain ⟨h0, hall⟩ := h
  have htrans : ∀ {s X t}, C.delta s X = some t → (C.items t).isEmpty = false ∧
      coresWithin (C.items t) (closeCores g (g.rules.length + 1) (kernelCores g C s X)) = true := by
    intro s X t hd
    obtain ⟨hs, hX⟩ := delta_some_mem hd hlen hglen hrows
    simpa [tightTransB, hd] using hall s hs X hX
  refine ⟨⟨fun r d a hit => ?_, fun s X t hd r d a hit => ?_⟩, fun s X t hd => ?_⟩
  · refine closeCores_reach (K := fun r d => r = none ∧ d = 0) _ _ ?_ _ (coresWithin_mem h0 hit)
    intro c hc
    cases List.mem_singleton.mp hc
    exact .kernel ⟨rfl, rfl⟩
  · exact closeCores_reach _ _ (fun c hc => .kernel (mem_kernelCores hc)) _ (coresWithin_mem (htrans hd).2 hit)
  · exact List.isEmpty_eq_false_iff_exists_mem.mp (htrans hd).1

def symProd (prod : List Nat) : Sym Nat Nat → Bool
  | .t _ => true
  | .n B => prod.contains B

def prodStep (g : Grammar Nat Nat) (prod : List Nat) : List Nat :=
  prod ++ (g.rules.filter fun r => r.rhs.all (symProd prod)).map (·.lhs)

def prodIter (g : Grammar Nat Nat) : Nat → List Nat → List Nat
  | 0, prod => prod
  | n + 1, prod => prodIter g n (prodStep g prod)

def rhsNts : List (Sym Nat Nat) → List Nat
  | [] => []
  | .n B :: rest => B :: rhsNts rest
  | .t _ :: rest => rhsNts rest

/-- every nonterminal that can occur in a sentential form derives some token sequence -/
def productiveB (g : Grammar Nat Nat) : Bool :=
  let prod := prodIter g (g.rules.length + 1) []
  (g.start :: g.rules.flatMap fun r => rhsNts r.rhs).all prod.contains

theorem prodIter_inv {P : Type} [Inhabited P] {g : Grammar Nat Nat} :
    ∀ n (prod : List Nat), (∀ B ∈ prod, ∃ t : Tree Nat P, WF g t (.n B)) →
      ∀ B ∈ prodIter g n prod, ∃ t : Tree Nat P, WF g t (.n B) := by
  intro n
  induction n with
  | zero => exact fun _ h => h
  | succ n ih =>
    refine fun prod hinv => ih _ fun B hB => ?_
    rcases List.mem_append.mp hB with h | h
    · exact hinv B h
    · simp only [List.mem_map, List.mem_filter] at h
      obtain ⟨rule, ⟨hmem, hall⟩, rfl⟩ := h
      obtain ⟨ts, hts⟩ := trees_of_forall rule.rhs fun B hB =>
        hinv B (List.contains_iff_mem.mp (List.all_eq_true.mp hall _ hB))
      obtain ⟨j, hj⟩ := List.getElem?_of_mem hmem
      exact ⟨.node j ts, .node j rule ts hj hts⟩

theorem mem_rhsNts {B : Nat} {rhs : List (Sym Nat Nat)} (h : Sym.n B ∈ rhs) : B ∈ rhsNts rhs := by
  fun_induction rhsNts rhs with
  | case1 => cases h
  | case2 C rest ih => simpa using (List.mem_cons.mp h).imp (fun e => by simpa using e) ih
  | case3 a rest ih => exact ih (by simpa using h)

theorem productiveB_sound {P : Type} [Inhabited P] {g : Grammar Nat Nat} (h : productiveB g = true) :
    Productive g P := by
  unfold productiveB at h
  simp only [List.all_eq_true] at h
  intro B hocc
  have hmem : B ∈ g.start :: g.rules.flatMap fun r => rhsNts r.rhs := by
    rcases hocc with rfl | ⟨rule, hr, hB⟩
    · exact List.mem_cons_self
    · exact List.mem_cons_of_mem _ (List.mem_flatMap.mpr ⟨rule, hr, mem_rhsNts hB⟩)
  have := List.contains_iff_mem.mp (h B hmem)
  exact prodIter_inv _ [] (fun _ h => by cases h) B this

theorem valid_tight_first_offending {P : Type} [Inhabited P] {g : Grammar Nat Nat} {nN : Nat} {C : Cert}
    (hv : validB g nN C = true) (ht : tightB g nN C = true) (hp : productiveB g = true)
    {w : List (Tok Nat P)} {c : Cfg Nat P} (hrun : Steps g (mkAuto C) ⟨[C.start], [], w⟩ c)
    (herr : step g (mkAuto C) c = .err) :
    ∃ pre, w = pre ++ c.rest ∧
      (∃ suf t, WF g t (.n g.start) ∧ t.yield = pre ++ suf) ∧
      (∀ a r, c.rest = a :: r → ∀ r' t, WF g t (.n g.start) → t.yield ≠ pre ++ a :: r') ∧
      (c.rest = [] → ∀ t, WF g t (.n g.start) → t.yield ≠ w) := by
  have hk := checked_of_validB hv
  obtain ⟨hs, hc⟩ := validB_sound (P := P) hv
  obtain ⟨hcs, hne⟩ := tightB_sound ht hk.alen hk.glen hk.grows
  exact first_offending hs hc hcs hne (productiveB_sound hp) hrun herr

end Valid
end KikiVerif
