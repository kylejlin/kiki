/-
Termination of `get_closure`: every item ever queued is well-formed, there are finitely many well-formed items,
an item enters the accumulator at most once and brings a bounded number of new queue entries.
-/
import KikiVerif.Proofs.Build

namespace KikiVerif
namespace Machine
open LR (Sym Rule Grammar)

/-! ### the universe of well-formed items -/

def maxDot (c : Ctx) : Nat := (c.g.rules.map fun r => r.rhs.length).foldl max 1

theorem rhsOf_length_le (c : Ctx) (rule : Nat) : (rhsOf c rule).length ≤ maxDot c := by
  unfold rhsOf maxDot
  split
  · exact (List.le_foldl_max _ 1).1
  · split
    · rename_i r hr
      exact (List.le_foldl_max _ 1).2 _ (List.mem_map.mpr ⟨r, List.mem_of_getElem? hr, rfl⟩)
    · simp

def allItems (c : Ctx) : List Item :=
  (List.range (c.numRules + 1)).flatMap fun r =>
    (List.range (c.nT + 1)).flatMap fun la => (List.range (maxDot c + 1)).map fun d => ⟨r, la, d⟩

theorem mem_allItems {c : Ctx} {y : Item} (h : WfItem c y) : y ∈ allItems c := by
  obtain ⟨h1, h2, h3⟩ := h
  unfold allItems
  simp only [List.mem_flatMap, List.mem_map, List.mem_range]
  have := rhsOf_length_le c y.rule
  exact ⟨y.rule, by omega, y.la, by omega, y.dot, by omega, rfl⟩

theorem wf_nodup_length_le {c : Ctx} {K : List Item} (hnd : K.Nodup) (hw : ∀ y ∈ K, WfItem c y) :
    K.length ≤ (allItems c).length :=
  hnd.length_le_of_subset fun y hy => mem_allItems (hw y hy)

theorem wf_length_le {c : Ctx} {S : List Item} (hs : Oset.Sorted S) (hw : ∀ y ∈ S, WfItem c y) :
    S.length ≤ (allItems c).length :=
  wf_nodup_length_le (Oset.Sorted.nodup hs) hw

/-! ### how many items one item can imply -/

def impBound (c : Ctx) : Nat := (c.nT + 1) * c.numRules

theorem ruleIndicesFor_length (c : Ctx) (b : Nat) : (ruleIndicesFor c b).length ≤ c.numRules := by
  unfold ruleIndicesFor Ctx.numRules
  rw [List.length_map]
  have := List.length_filter_le (fun p : Rule Nat Nat × Nat => p.1.lhs == b) c.g.rules.zipIdx
  simpa using this

theorem implied_length {c : Ctx} {fm : List FirstSet} (hwf : CtxWF c) (hfb : FmBound c.nT fm) {x : Item}
    (hx : WfItem c x) {imp : List Item} (h : impliedItems c fm x = some imp) : imp.length ≤ impBound c := by
  cases hs : symRightOfDot c x with
  | some X =>
    cases X with
    | n b =>
      rw [impliedItems_n hs] at h
      cases hlas : augmentedFirst fm ((rhsOf c x.rule).drop (x.dot + 1)) x.la <;> simp [hlas] at h
      rename_i las
      subst h
      -- the lookahead list is duplicate-free and bounded by `nT`
      have hlen : las.length ≤ c.nT + 1 := (las_sorted hlas).nodup.length_le_of_lt fun a ha => by
        have := las_bound hfb (fun a ha => rhsOf_terminals hwf x.rule a (List.mem_of_mem_drop ha)) hlas a ha
        have := hx.2.2
        omega
      have := List.sum_le_mul (las.map fun la => ((ruleIndicesFor c b).map fun r => (⟨r, la, 0⟩ : Item)).length) c.numRules
        (by simpa using fun _ _ => ruleIndicesFor_length c b)
      rw [List.length_flatMap]
      exact Nat.le_trans (by simpa using this) (Nat.mul_le_mul_right _ hlen)
    | t a => simp [impliedItems, hs] at h; simp [h]
  | none => simp [impliedItems, hs] at h; simp [h]

def closureMeasure (c : Ctx) (queue : List Item) (acc : Oset Item) : Nat :=
  queue.length + ((allItems c).length - acc.raw.length) * (impBound c + 1)

-- `hlen` is not used: a failing FIRST-map lookup ends the loop with `some none`, which is a return too
set_option linter.unusedVariables false in
theorem closureLoop_terminates {c : Ctx} {fm : List FirstSet} (ok : Assemble.CtxOK c) (hlen : fm.length = c.nN)
    (hfb : FmBound c.nT fm) :
    ∀ (k : Nat) (queue : List Item) (acc : Oset Item), Oset.Sorted acc.raw → (∀ y ∈ acc.raw, WfItem c y) →
      (∀ y ∈ queue, WfItem c y) → closureMeasure c queue acc < k → closureLoop c fm k queue acc ≠ none := by
  intro k queue acc hs hacc hq hk
  fun_induction closureLoop c fm k queue acc with
  | case1 => omega
  | case2 | case4 => nofun
  | case3 _ x xs acc _ ih =>
    refine ih hs hacc (fun y hy => hq y (List.mem_cons_of_mem _ hy)) ?_
    simp only [closureMeasure, List.length_cons] at hk ⊢
    omega
  | case5 _ x xs acc hc imp himp ih =>
    -- a new item: the accumulator grows by one, the queue by at most `impBound`
    have hxw := hq x List.mem_cons_self
    have hil := implied_length ok.terms hfb hxw himp
    have hs' := Oset.insert_sorted acc x hs
    have hacc' : ∀ y ∈ (acc.insert x).raw, WfItem c y := fun y hy =>
      ((Oset.mem_insert acc x y hs).mp hy).elim (fun e => e ▸ hxw) (hacc y)
    have hlen' := Oset.length_insert hs (by simpa using hc)
    have hle := wf_length_le hs' hacc'
    refine ih hs' hacc' (fun y hy => ?_) ?_
    · rcases List.mem_append.mp hy with hy | hy
      · exact hq y (List.mem_cons_of_mem _ hy)
      · exact implied_wf ok.terms hfb hxw himp hy
    · rw [hlen'] at hle
      simp only [closureMeasure, List.length_cons, List.length_append, hlen'] at hk ⊢
      have e : (allItems c).length - acc.raw.length = ((allItems c).length - (acc.raw.length + 1)) + 1 := by omega
      rw [e, Nat.add_mul] at hk
      omega

/-- fuel that is always enough for one closure -/
def closureFuel (c : Ctx) : Nat := (allItems c).length + (allItems c).length * (impBound c + 1) + 1

end Machine
end KikiVerif
