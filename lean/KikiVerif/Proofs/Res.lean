/-
Reasoning about `Res` computations: `Spec x P E` says what `x` returns, what its errors say, and that it does not
panic; `Spec.bind` follows a `do` block step by step.
-/
import KikiVerif.Model.Tokenize

namespace KikiVerif

namespace Res

def Spec {α : Type} (x : Res α) (P : α → Prop) (E : KErr → Prop) : Prop :=
  match x with
  | .ok a => P a
  | .err e => E e
  | .panic _ => False

variable {α β : Type} {x : Res α} {P P' : α → Prop} {E E' : KErr → Prop}

theorem ok_bind (a : α) (g : α → Res β) : (Res.ok a >>= g) = g a := rfl

theorem Spec.of_ok {a : α} (h : Spec x P E) (hx : x = .ok a) : P a := by subst hx; exact h
theorem Spec.of_err {e : KErr} (h : Spec x P E) (hx : x = .err e) : E e := by subst hx; exact h
theorem Spec.no_panic (h : Spec x P E) (s : String) : x ≠ .panic s := by rintro rfl; exact h

theorem Spec.imp (h : Spec x P E) (hp : ∀ a, P a → P' a) (he : ∀ e, E e → E' e) : Spec x P' E' := by
  cases x with
  | ok a => exact hp a h
  | err e => exact he e h
  | panic s => exact h

theorem Spec.err_imp (h : Spec x P E) (he : ∀ e, E e → E' e) : Spec x P E' := h.imp (fun _ h => h) he

theorem Spec.bind {g : α → Res β} {Q : β → Prop} (h : Spec x P E) (hg : ∀ a, P a → Spec (g a) Q E) :
    Spec (x >>= g) Q E := by
  cases x with
  | ok a => exact hg a h
  | err e => exact h
  | panic s => exact h

end Res

end KikiVerif
