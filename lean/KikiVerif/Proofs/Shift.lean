/-
The scanner is translation invariant: scanning the same characters at a different byte offset gives the same
tokens with all positions moved by the difference (and the same lexical error, moved likewise).  Hence what
precedes a token boundary — in particular how much whitespace (comments: `Proofs/Separator`) — influences the rest
of the scan only through positions.
-/
import KikiVerif.Proofs.Lexeme
import KikiVerif.Spec.Unparse

namespace KikiVerif
namespace Spec
open Text Tokenize

def shiftTok (d : Nat) : Token → Token
  | .underscore p => .underscore (p + d)
  | .ident n p => .ident n (p + d)
  | .termIdent n p => .termIdent n (p + d)
  | .attr s p => .attr s (p + d)
  | .startKw p => .startKw (p + d)
  | .structKw p => .structKw (p + d)
  | .enumKw p => .enumKw (p + d)
  | .terminalKw p => .terminalKw (p + d)
  | .colon p => .colon (p + d)
  | .dcolon p => .dcolon (p + d)
  | .comma p => .comma (p + d)
  | .lparen p => .lparen (p + d)
  | .rparen p => .rparen (p + d)
  | .lcurly p => .lcurly (p + d)
  | .rcurly p => .rcurly (p + d)
  | .langle p => .langle (p + d)
  | .rangle p => .rangle (p + d)

def shiftStep (d : Nat) : Step → Step
  | .done => .done
  | .skip k => .skip k
  | .emit t k => .emit (shiftTok d t) k
  | .bad j c => .bad (j + d) c

def shiftRes (d : Nat) : Res (List Token) → Res (List Token)
  | .ok ts => .ok (ts.map (shiftTok d))
  | .err (.lex j c) => .err (.lex (j + d) c)
  | r => r

theorem erase_shiftTok (d : Nat) (t : Token) : erase (shiftTok d t) = erase t := by
  cases t <;> rfl

theorem reserved_shift (w : Str) (p d : Nat) : reserved w (p + d) = (reserved w p).map (shiftTok d) := by
  rcases reserved_cases w with e | ⟨_, e⟩ | ⟨_, e⟩ | ⟨_, e⟩ | ⟨_, e⟩ | ⟨_, e⟩ <;> rw [e, e] <;> rfl

theorem punct_shift (c : Char) (p d : Nat) : punct c (p + d) = (punct c p).map (shiftTok d) := by
  unfold punct
  split <;> rfl

theorem identTok_shift (w : Str) (p d : Nat) : identTok w (p + d) = shiftTok d (identTok w p) := by
  unfold identTok
  rw [reserved_shift]
  cases reserved w p <;> rfl

theorem attrBody_shift : ∀ (cs : Str) (i d : Nat) (st : List Char),
    attrBody cs (i + d) st =
      match attrBody cs i st with
      | .done b r => .done b r
      | .bad j c => .bad (j + d) c := by
  intro cs i d st
  fun_induction attrBody cs i st
  -- a recursive call that does not return `done`
  case case3 | case7 | case11 =>
    obtain ⟨j, ch, e⟩ := AttrRes.eq_bad ‹_›
    simp [attrBody, *, Nat.add_right_comm _ d]
  all_goals simp [attrBody, *, Nat.add_right_comm _ d]

theorem Lex.shift {w post : Str} {i : Nat} {s : Step} (h : Lex w post i s) (d : Nat) :
    Lex w post (i + d) (shiftStep d s) := by
  cases h with
  | done => exact .done _
  | ws _ _ h => exact .ws _ _ h
  | comment _ _ h => exact .comment _ _ h
  | commentEof _ h => exact .commentEof _ h
  | slash _ h => exact .slash _ h
  | ident _ hc ht hp => simpa [shiftStep, identTok_shift] using Lex.ident (i + d) hc ht hp
  | termIdent _ hd ht hp hr =>
    simpa [shiftStep, shiftTok, Nat.add_right_comm] using Lex.termIdent (i + d) hd ht hp hr
  | termReserved _ hd ht hp hr =>
    simpa [shiftStep, Nat.add_right_comm] using Lex.termReserved (i + d) hd ht hp hr
  | dollar _ h => exact .dollar _ h
  | dcolon => exact .dcolon _ _
  | colon _ h => exact .colon _ h
  | attr _ h => exact .attr _ (by rw [Nat.add_right_comm, attrBody_shift, h])
  | attrBad _ h => exact .attrBad _ (by rw [Nat.add_right_comm, attrBody_shift, h])
  | pound _ h => exact .pound _ h
  | punct _ _ hc hp => exact .punct _ _ hc (by rw [punct_shift, hp]; rfl)
  | illegal _ _ h1 h2 h3 h4 h5 h6 h7 => exact .illegal _ _ h1 h2 h3 h4 h5 h6 (by rw [punct_shift, h7]; rfl)

theorem scanFrom_shift (cs : Str) (i d : Nat) : scanFrom cs (i + d) = shiftRes d (scanFrom cs i) := by
  induction cs, i using scan_induction with
  | done i => rw [scanFrom_done rfl, scanFrom_done rfl]; rfl
  | bad post i j c hl =>
    rw [← List.nil_append post, scanFrom_lex hl, scanFrom_lex (hl.shift d)]
    rfl
  | skip w post i k hl ih =>
    rw [scanFrom_lex hl, scanFrom_lex (hl.shift d), Nat.add_right_comm]
    exact ih
  | emit w post i t k hl ih =>
    rw [scanFrom_lex hl, scanFrom_lex (hl.shift d), Nat.add_right_comm]
    simp only [shiftStep, ih]
    cases scanFrom post (i + blen w) with
    | ok ts => rfl
    | err e => cases e <;> rfl
    | panic s => rfl

theorem scanFrom_erase_offset (cs : Str) (i j : Nat) :
    (match scanFrom cs i with | .ok ts => some (ts.map erase) | _ => none) =
    (match scanFrom cs j with | .ok ts => some (ts.map erase) | _ => none) := by
  have key : ∀ i d, (match scanFrom cs (i + d) with | .ok ts => some (ts.map erase) | _ => none) =
      (match scanFrom cs i with | .ok ts => some (ts.map erase) | _ => none) := by
    intro i d
    rw [scanFrom_shift]
    cases scanFrom cs i with
    | ok ts => simp only [shiftRes, List.map_map]; congr 1; apply List.map_congr_left; intro t _; exact erase_shiftTok d t
    | err e => cases e <;> rfl
    | panic s => rfl
  rcases Nat.le_total i j with h | h
  · obtain ⟨d, rfl⟩ := Nat.exists_eq_add_of_le h
    exact (key i d).symm
  · obtain ⟨d, rfl⟩ := Nat.exists_eq_add_of_le h
    exact key j d

end Spec
end KikiVerif
