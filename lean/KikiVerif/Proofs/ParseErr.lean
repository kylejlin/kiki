/-
`unexpected_token_or_eof_to_kiki_err`: for a token of `tokenize src` it never panics (no `Token::start`
underflow, no bad slice) and the error carries the token's own text and span.
-/
import KikiVerif.Proofs.Positions
import KikiVerif.Model.FrontParse

namespace KikiVerif
namespace FrontParse
open Text Spec

theorem tokenStart_eq {t : Token} (h : posOk t) : Token.start t = some (tokStart t) := by
  cases t <;> try rfl
  exact if_neg (by have := h.1; omega)

theorem contentLen_eq (t : Token) : Token.contentLen t = blen (tokText t) := by
  -- `String.toList_ofList` reads the characters off the literal; `"start".toList` would decode its bytes
  cases t <;> dsimp only [Token.contentLen, tokText] <;> (try rw [String.toList_ofList]) <;> rfl

theorem unexpectedToErr_token (src : Str) (ts : List Token) (h : Tokenize.tokenize src = .ok ts) (t : Token)
    (ht : t ∈ ts) :
    unexpectedToErr src (some t) = .ok (.parse (tokStart t) (tokText t) (tokStart t + blen (tokText t))) := by
  obtain ⟨hslice, hpos⟩ := tokenize_positions src ts h t ht
  unfold unexpectedToErr
  simp only [tokenStart_eq hpos, contentLen_eq, hslice]

end FrontParse
end KikiVerif
