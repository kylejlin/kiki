/-
`tokenize = Spec.scan`: the character state machine of `tokenize.rs` (model `Tokenize.*`) computes
exactly the documented lexical rules (`Spec.scanFrom`).  For every case of a scanner step (`Spec.Lex`) the machine,
started in `Main` at the head of the consumed characters, is back in `Main` behind them with the same token
pushed, or has failed with the same error (`run_lex`); the rest is induction along the steps.
-/
import KikiVerif.Proofs.Lexeme

namespace KikiVerif
namespace Tokenize
open Text Spec

/-- finish a run: flush the pending token at end of input and return the tokens -/
def finishTk (src : Str) : Res Tk → Res (List Token)
  | .ok tk =>
    match pushPending src tk none (blen src) with
    | .ok tk' => .ok tk'.out
    | .err e => .err e
    | .panic s => .panic s
  | .err e => .err e
  | .panic s => .panic s

/-- the rest of a tokenizer run from the middle of the source -/
def run (src cs : Str) (i : Nat) (tk : Tk) : Res (List Token) := finishTk src (loop src cs i tk)

def prepend (out : List Token) : Res (List Token) → Res (List Token)
  | .ok ts => .ok (out ++ ts)
  | .err e => .err e
  | .panic s => .panic s

theorem tokenize_eq_run (src : Str) : tokenize src = run src src 0 ⟨[], .main⟩ := by
  unfold tokenize run finishTk
  cases loop src src 0 ⟨[], .main⟩ <;> rfl

theorem run_nil (src : Str) (i : Nat) (tk : Tk) : run src [] i tk = finishTk src (.ok tk) := rfl

theorem run_cons_ok {src : Str} {c : Char} {cs : Str} {i : Nat} {tk tk' : Tk}
    (h : handleChar src tk c i = .ok tk') : run src (c :: cs) i tk = run src cs (i + clen c) tk' := by
  unfold run; simp only [loop, h]

theorem run_cons_err {src : Str} {c : Char} {cs : Str} {i : Nat} {tk : Tk} {e : KErr}
    (h : handleChar src tk c i = .err e) : run src (c :: cs) i tk = .err e := by
  unfold run; simp only [loop, h]; rfl

theorem prepend_prepend (a : List Token) (t : Token) (r : Res (List Token)) :
    prepend (a ++ [t]) r = prepend a (match r with | .ok ts => .ok (t :: ts) | e => e) := by
  cases r <;> simp [prepend]

theorem drop_len_append {α} (a b : List α) : (a ++ b).drop a.length = b := by simp

@[simp] theorem prepend_err (out : List Token) (e : KErr) : prepend out (.err e) = .err e := rfl

theorem run_chars {src : Str} {out : List Token} (st : Nat → State) : ∀ (body r : Str) (j : Nat),
    (∀ c ∈ body, ∀ j, handleChar src ⟨out, st j⟩ c j = .ok ⟨out, st (j + clen c)⟩) →
    run src (body ++ r) j ⟨out, st j⟩ = run src r (j + blen body) ⟨out, st (j + blen body)⟩ := by
  intro body
  induction body with
  | nil => intro r j _; rfl
  | cons c cs ih =>
    intro r j h
    rw [List.cons_append, run_cons_ok (h c List.mem_cons_self j), ih r _ fun d hd => h d (List.mem_cons_of_mem _ hd)]
    simp only [blen_cons, Nat.add_assoc]

theorem run_flush {src post : Str} {j : Nat} {tk : Tk} {out' : List Token}
    (hp : ∀ cur ci, pushPending src tk cur ci = .ok ⟨out', .main⟩)
    (hc : ∀ d ∈ post.head?, handleChar src tk d j = (pushPending src tk (some d) j).bind fun tk' => handleMain tk' d j) :
    run src post j tk = run src post j ⟨out', .main⟩ := by
  cases post with
  | nil => simp only [run, loop, finishTk, hp]; rfl
  | cons d r => simp only [run, loop, hc d rfl, hp, Res.bind]; rfl

theorem run_stop {src post : Str} {j : Nat} {tk : Tk} {e : KErr}
    (hend : post = [] → pushPending src tk none (blen src) = .err e)
    (hc : ∀ d ∈ post.head?, handleChar src tk d j = .err e) : run src post j tk = .err e := by
  cases post with
  | nil => simp [run, loop, finishTk, hend rfl]
  | cons d r => exact run_cons_err (hc d rfl)

theorem isOpener_eq (c : Char) : isOpener c = isOpen c := rfl
theorem isCloser_eq (c : Char) : isCloser c = isClose c := rfl
theorem bracketsMatch_eq (o c : Char) : bracketsMatch o c = closes o c := rfl

attribute [local simp] isOpener_eq isCloser_eq bracketsMatch_eq

theorem attr_slices {src pre done rest : Str} (hsrc : src = pre ++ '#' :: '[' :: done ++ rest) :
    assertBrackets src (blen pre) (blen pre + 2 + blen done) = bracketScan done (blen pre + 2) ['['] ∧
    sliceBytes src (blen pre) (blen pre + 2 + blen done) = some ('#' :: '[' :: done) := by
  have h1 := slice_mid (pre ++ ['#']) ('[' :: done) rest
  have h2 := slice_mid pre ('#' :: '[' :: done) rest
  have e : clen '#' = 1 ∧ clen '[' = 1 := by decide
  simp only [blen_append, blen_cons, blen_nil, e, List.append_assoc, List.cons_append, List.nil_append] at h1 h2
  rw [show blen pre + (1 + 0) + (1 + blen done) = blen pre + 2 + blen done by omega] at h1
  rw [show blen pre + (1 + (1 + blen done)) = blen pre + 2 + blen done by omega] at h2
  subst hsrc
  refine ⟨?_, by simpa using h2⟩
  simp [assertBrackets, show blen pre + 1 = blen pre + (1 + 0) by omega, h1, Res.ofOption, bind, Res.bind, bracketScan,
    show isOpen '[' = true by decide, e]

/-- once the bracket scan of the consumed part has failed, every continuation of the state machine
reports that failure (it is found by the scan at the closing bracket, the newline or the end of input) -/
theorem run_attr_doomed {src pre : Str} {e : KErr} (out : List Token) :
    ∀ (cs done : Str) (cnt : Nat), src = pre ++ '#' :: '[' :: done ++ cs →
      (∀ tail, bracketScan (done ++ tail) (blen pre + 2) ['['] = .err e) →
      run src cs (blen pre + 2 + blen done) ⟨out, .attr (blen pre) cnt (blen pre + 2 + blen done)⟩ = .err e := by
  intro cs
  induction cs with
  | nil =>
    intro done cnt hsrc hbad
    have := hbad []
    rw [List.append_nil] at this
    simp [run, loop, finishTk, pushPending, (attr_slices hsrc).1, this, bind, Res.bind]
  | cons c cs ih =>
    intro done cnt hsrc hbad
    have hsrc' : src = pre ++ '#' :: '[' :: (done ++ [c]) ++ cs := by simp [hsrc]
    have hj : blen pre + 2 + blen done + clen c = blen pre + 2 + blen (done ++ [c]) := by simp [Nat.add_assoc]
    have go : ∀ cnt', handleChar src ⟨out, .attr (blen pre) cnt (blen pre + 2 + blen done)⟩ c (blen pre + 2 + blen done) =
          .ok ⟨out, .attr (blen pre) cnt' (blen pre + 2 + blen done + clen c)⟩ →
        run src (c :: cs) (blen pre + 2 + blen done) ⟨out, .attr (blen pre) cnt (blen pre + 2 + blen done)⟩ = .err e :=
      fun cnt' h => by
        rw [run_cons_ok h, hj]
        exact ih (done ++ [c]) cnt' hsrc' fun tail => by simpa using hbad (c :: tail)
    have a0 : assertBrackets src (blen pre) (blen pre + 2 + blen done) = .err e := by
      rw [(attr_slices hsrc).1, ← done.append_nil]; exact hbad []
    have a1 : assertBrackets src (blen pre) (blen pre + 2 + blen done + clen c) = .err e := by
      rw [hj, (attr_slices hsrc').1]; exact hbad [c]
    by_cases ho : isOpener c = true
    · exact go (cnt + 1) (by simp only [handleChar, ho, if_true])
    by_cases hc : isCloser c = true
    · by_cases h3 : cnt = 1
      · exact run_cons_err (by simp only [handleChar, ho, hc, h3, finishOuterAttribute, a1, bind, Res.bind]; rfl)
      · exact go (cnt - 1) (by simp only [handleChar, ho, hc, h3, if_true, if_false, Bool.false_eq_true])
    by_cases hn : c = '\n'
    · exact run_cons_err (by simp only [handleChar, hn, a0, bind, Res.bind]; rfl)
    · exact go cnt (by simp only [handleChar, ho, hc, hn, if_false, Bool.false_eq_true])

/-- scanning the consumed part `done` of an attribute (after `#[`) succeeds and leaves the stack `st` -/
def Inv (pre done : Str) (st : List Char) : Prop :=
  ∀ tail, bracketScan (done ++ tail) (blen pre + 2) ['['] = bracketScan tail (blen pre + 2 + blen done) st

def attrRest (src pre : Str) (out : List Token) (done : Str) : AttrRes → Res (List Token)
  | .bad k ch => .err (.lex k ch)
  | .done body r' =>
    run src r' (blen pre + 2 + blen done + blen body) ⟨out ++ [.attr ('#' :: '[' :: done ++ body) (blen pre)], .main⟩

theorem run_attr {src pre : Str} (out : List Token) :
    ∀ (cs done : Str) (st : List Char), st ≠ [] → src = pre ++ '#' :: '[' :: done ++ cs → Inv pre done st →
      run src cs (blen pre + 2 + blen done) ⟨out, .attr (blen pre) st.length (blen pre + 2 + blen done)⟩ =
        attrRest src pre out done (attrBody cs (blen pre + 2 + blen done) st) := by
  intro cs
  induction cs with
  | nil =>
    intro done st hst hsrc hinv
    have h0 := hinv []
    rw [List.append_nil] at h0
    have hlen : blen src = blen pre + 2 + blen done := by
      simp [hsrc, show clen '#' = 1 ∧ clen '[' = 1 by decide]; omega
    simp [run, loop, finishTk, pushPending, (attr_slices hsrc).1, h0, bracketScan, hlen, attrBody, attrRest, bind, Res.bind]
  | cons c cs ih =>
    intro done st hst hsrc hinv
    have hsrc' : src = pre ++ '#' :: '[' :: (done ++ [c]) ++ cs := by simp [hsrc]
    have hj : blen pre + 2 + blen done + clen c = blen pre + 2 + blen (done ++ [c]) := by simp [Nat.add_assoc]
    have hscan : ∀ tail, bracketScan (done ++ [c] ++ tail) (blen pre + 2) ['['] =
        bracketScan (c :: tail) (blen pre + 2 + blen done) st := fun tail => by simpa using hinv (c :: tail)
    -- `c` is consumed, the stack becomes `st'`, and the rest is by induction
    have go : ∀ st', st' ≠ [] →
        handleChar src ⟨out, .attr (blen pre) st.length (blen pre + 2 + blen done)⟩ c (blen pre + 2 + blen done) =
          .ok ⟨out, .attr (blen pre) st'.length (blen pre + 2 + blen done + clen c)⟩ →
        (∀ tail, bracketScan (c :: tail) (blen pre + 2 + blen done) st =
          bracketScan tail (blen pre + 2 + blen done + clen c) st') →
        run src (c :: cs) (blen pre + 2 + blen done) ⟨out, .attr (blen pre) st.length (blen pre + 2 + blen done)⟩ =
          attrRest src pre out done (match attrBody cs (blen pre + 2 + blen done + clen c) st' with
            | .done b r => AttrRes.done (c :: b) r | bad => bad) := by
      intro st' hne h hstep
      rw [run_cons_ok h, hj, ih (done ++ [c]) st' hne hsrc' fun tail => by rw [hscan, hstep, hj], ← hj]
      cases attrBody cs (blen pre + 2 + blen done + clen c) st' with
      | bad k ch => rfl
      | done body r' => simp [attrRest, Nat.add_assoc]
    unfold attrBody
    by_cases ho : isOpen c = true
    · rw [if_pos ho]
      exact go (c :: st) (by simp) (by simp [handleChar, ho]) fun tail => by simp [bracketScan, ho]
    rw [if_neg ho]
    by_cases hc : isClose c = true
    · rw [if_pos hc]
      cases st with
      | nil => exact absurd rfl hst
      | cons o st' =>
        dsimp only
        by_cases hcl : closes o c = true
        · rw [if_pos hcl]
          by_cases he : st'.isEmpty = true
          · -- the bracket that ends the attribute
            obtain rfl : st' = [] := by simpa using he
            have hs := attr_slices hsrc'
            rw [← (done ++ [c]).append_nil, hscan [], List.append_nil, ← hj] at hs
            rw [if_pos he, run_cons_ok (tk' := ⟨out ++ [.attr ('#' :: '[' :: (done ++ [c])) (blen pre)], .main⟩) (by
              simp [handleChar, ho, hc, finishOuterAttribute, hs, bracketScan,
                hcl, Res.ofOption, bind, Res.bind, pure])]
            simp [attrRest]
          · rw [if_neg he]
            have hne : st' ≠ [] := by simpa using he
            exact go st' hne (by
                have : st'.length ≠ 0 := by simpa using hne
                simp [handleChar, ho, hc, this]) fun tail => by
              simp [bracketScan, ho, hc, hcl]
        · -- a closing bracket of the wrong kind: the first offending character
          rw [if_neg hcl]
          have hbad : ∀ tail, bracketScan (done ++ [c] ++ tail) (blen pre + 2) ['['] =
              .err (.lex (blen pre + 2 + blen done) (some c)) := fun tail => by
            rw [hscan]; simp [bracketScan, ho, hc, hcl]
          by_cases h5 : st'.length = 0
          · have hs := attr_slices hsrc'
            rw [← (done ++ [c]).append_nil, hbad [], List.append_nil, ← hj] at hs
            exact run_cons_err (by
              simp [handleChar, ho, hc, h5, finishOuterAttribute, hs.1, bind, Res.bind])
          · rw [run_cons_ok (tk' := ⟨out, .attr (blen pre) st'.length (blen pre + 2 + blen done + clen c)⟩) (by
              simp [handleChar, ho, hc, h5]), hj]
            exact run_attr_doomed out cs (done ++ [c]) _ hsrc' hbad
    rw [if_neg hc]
    by_cases hn : c = '\n'
    · -- a newline before the attribute is closed
      have h0 := hinv []
      rw [List.append_nil] at h0
      rw [if_pos hn]
      subst hn
      exact run_cons_err (by
        simp +decide [handleChar, (attr_slices hsrc).1, h0, bracketScan, bind, Res.bind])
    · rw [if_neg hn]
      exact go st hst (by simp [handleChar, ho, hc, hn]) fun tail => by
        simp [bracketScan, ho, hc]

theorem reservedWordToken_eq (w : Str) (p : Nat) : reservedWordToken w p = reserved w p := rfl

theorem punctToken_eq (c : Char) (p : Nat) : punctToken c p = punct c p := by
  unfold punctToken punct
  by_cases h1 : c = ':' ; · subst h1; rfl
  by_cases h2 : c = ',' ; · subst h2; rfl
  by_cases h3 : c = '(' ; · subst h3; rfl
  by_cases h4 : c = ')' ; · subst h4; rfl
  by_cases h5 : c = '{' ; · subst h5; rfl
  by_cases h6 : c = '}' ; · subst h6; rfl
  by_cases h7 : c = '<' ; · subst h7; rfl
  by_cases h8 : c = '>' ; · subst h8; rfl
  simp only [h1, h2, h3, h4, h5, h6, h7, h8, if_false]

theorem handleChar_main (src : Str) (out : List Token) (c : Char) (i : Nat) :
    handleChar src ⟨out, .main⟩ c i = handleMain ⟨out, .main⟩ c i := rfl

theorem removeDollars_identChars (w : Str) (h : ∀ c ∈ w, isIdentChar c = true) : removeDollars w = w := by
  unfold removeDollars
  rw [List.filter_eq_self]
  intro c hc
  have := h c hc
  by_cases e : c = '$'
  · subst e; revert this; decide
  · simpa using e

theorem pushPending_ident {src pre w r : Str} (hsrc : src = pre ++ w ++ r) (out : List Token)
    (cur : Option Char) (ci : Nat) :
    pushPending src ⟨out, .ident (blen pre) (blen pre + blen w)⟩ cur ci =
      .ok ⟨out ++ [identTok w (blen pre)], .main⟩ := by
  simp only [pushPending, hsrc, slice_mid, Res.ofOption, bind, Res.bind, reservedWordToken_eq, identTok]
  cases reserved w (blen pre) <;> rfl

theorem pushPending_termIdent {src pre w r : Str} (hsrc : src = pre ++ ('$' :: w) ++ r) (out : List Token)
    (hw : ∀ c ∈ w, isIdentChar c = true) (cur : Option Char) (ci : Nat) :
    pushPending src ⟨out, .termIdent (blen pre) (blen pre + 1 + blen w)⟩ cur ci =
      if (reserved w 0).isSome then .err (.lex ci cur)
      else .ok ⟨out ++ [.termIdent w (blen pre + 1)], .main⟩ := by
  have hs := slice_mid pre ('$' :: w) r
  rw [blen_cons, show clen '$' = 1 by decide, ← Nat.add_assoc, ← hsrc] at hs
  have hrd : removeDollars ('$' :: w) = w := by
    rw [show removeDollars ('$' :: w) = removeDollars w by simp [removeDollars], removeDollars_identChars w hw]
  simp only [pushPending, hs, Res.ofOption, bind, Res.bind, hrd, reservedWordToken_eq]
  by_cases h : (reserved w 0).isSome = true
  · rw [if_pos h, if_pos h]
  · rw [if_neg h, if_neg h]; rfl

theorem handleChar_special (src : Str) (out : List Token) (i : Nat) :
    handleChar src ⟨out, .main⟩ '/' i = .ok ⟨out, .slash i⟩ ∧ handleChar src ⟨out, .main⟩ '$' i = .ok ⟨out, .dollar i⟩ ∧
    handleChar src ⟨out, .main⟩ ':' i = .ok ⟨out, .colon i⟩ ∧ handleChar src ⟨out, .main⟩ '#' i = .ok ⟨out, .pound i⟩ := by
  simp +decide [handleChar, handleMain]

theorem run_slashes (src : Str) (out : List Token) (r : Str) (i : Nat) :
    run src ('/' :: '/' :: r) i ⟨out, .main⟩ = run src r (i + 2) ⟨out, .comment⟩ := by
  rw [run_cons_ok (handleChar_special src out i).1,
    run_cons_ok (tk' := ⟨out, .comment⟩) (by simp [handleChar])]
  rfl

theorem run_pound_bracket (src : Str) (out : List Token) (r : Str) (i : Nat) :
    run src ('#' :: '[' :: r) i ⟨out, .main⟩ = run src r (i + 2) ⟨out, .attr i 1 (i + 2)⟩ := by
  rw [run_cons_ok (handleChar_special src out i).2.2.2,
    run_cons_ok (tk' := ⟨out, .attr i 1 (i + 2)⟩) (by simp +decide [handleChar, clen])]
  rfl

theorem handleChar_identChar {src : Str} {out : List Token} {c : Char} (h : isIdentChar c = true) (s e i : Nat) :
    handleChar src ⟨out, .ident s e⟩ c i = .ok ⟨out, .ident s (e + clen c)⟩ ∧
    handleChar src ⟨out, .termIdent s e⟩ c i = .ok ⟨out, .termIdent s (e + clen c)⟩ := by
  have : (isAsciiAlnum c || decide (c = '_')) = true := h
  simp [handleChar, this]

theorem run_dollar_word (src : Str) (out : List Token) {d : Char} {tl : Str} (r : Str) (i : Nat)
    (hd : isIdentStart d = true) (ht : ∀ x ∈ tl, isIdentChar x = true) :
    run src ('$' :: d :: (tl ++ r)) i ⟨out, .main⟩ =
      run src r (i + 1 + blen (d :: tl)) ⟨out, .termIdent i (i + 1 + blen (d :: tl))⟩ := by
  have hid : (isAsciiAlpha d || decide (d = '_')) = true := hd
  rw [run_cons_ok (handleChar_special src out i).2.1,
    run_cons_ok (tk' := ⟨out, .termIdent i (i + 1 + clen d)⟩) (by simp +decide [handleChar, hid, clen]),
    show clen '$' = 1 by decide,
    run_chars (.termIdent i) tl r _ fun x hx j => (handleChar_identChar (ht x hx) i j j).2,
    Nat.add_assoc (i + 1), ← blen_cons]

theorem run_lex {src pre w post : Str} {s : Step} (out : List Token) (hsrc : src = pre ++ w ++ post)
    (h : Lex w post (blen pre) s) :
    run src (w ++ post) (blen pre) ⟨out, .main⟩ =
      match (generalizing := false) s with
      | .done => .ok out
      | .bad j c => .err (.lex j c)
      | .skip _ => run src post (blen pre + blen w) ⟨out, .main⟩
      | .emit t _ => run src post (blen pre + blen w) ⟨out ++ [t], .main⟩ := by
  have c1 : clen '/' = 1 ∧ clen '$' = 1 ∧ clen ':' = 1 ∧ clen '#' = 1 ∧ clen '[' = 1 ∧ clen '\n' = 1 := by decide
  have stop : ∀ {x : Char}, isIdentChar x = false → ∀ s e i,
      handleChar src ⟨out, .ident s e⟩ x i = (pushPending src ⟨out, .ident s e⟩ (some x) i).bind (handleMain · x i) ∧
      handleChar src ⟨out, .termIdent s e⟩ x i =
        (pushPending src ⟨out, .termIdent s e⟩ (some x) i).bind (handleMain · x i) := fun {x} hx s e i => by
    have : (isAsciiAlnum x || decide (x = '_')) = false := hx
    simp [handleChar, this, bind]
  cases h with
  | done => rfl
  | ws _ _ hc =>
    rw [List.singleton_append, run_cons_ok (tk' := ⟨out, .main⟩) (by simp [handleChar, handleMain, hc])]
    simp
  | @comment body _ _ hb =>
    rw [List.cons_append, List.cons_append, List.append_assoc, run_slashes,
      run_chars (fun _ => .comment) body _ _ (fun c hc j => by simp [handleChar, hb c hc]),
      List.singleton_append, run_cons_ok (tk' := ⟨out, .main⟩) (by simp [handleChar])]
    simp +arith [c1]
  | @commentEof body _ hb =>
    rw [List.cons_append, List.cons_append, run_slashes,
      run_chars (fun _ => .comment) body _ _ (fun c hc j => by simp [handleChar, hb c hc])]
    rfl
  | @slash post _ hp =>
    rw [List.nil_append, run_cons_ok (handleChar_special src out _).1]
    exact run_stop (fun _ => rfl) fun d hd => by
      have : d ≠ '/' := fun e => hp (e ▸ hd)
      simp [handleChar, this]
  | @ident c tl _ _ hc ht hp =>
    have hid : (isAsciiAlpha c || decide (c = '_')) = true := hc
    rw [List.cons_append,
      run_cons_ok (tk' := ⟨out, .ident (blen pre) (blen pre + clen c)⟩) (by
        simp [handleChar, handleMain, identStart_first hc, hid]),
      run_chars (.ident (blen pre)) tl _ _ fun d hd j => (handleChar_identChar (ht d hd) _ j j).1,
      Nat.add_assoc, ← blen_cons]
    exact run_flush (pushPending_ident hsrc out) fun d hd => (stop (hp d hd) _ _ _).1
  | @termIdent d tl _ _ hd ht hp hr =>
    have := pushPending_termIdent hsrc out (List.forall_mem_cons.mpr ⟨identStart_identChar hd, ht⟩)
    simp only [hr, Bool.false_eq_true, if_false] at this
    rw [List.cons_append, List.cons_append, run_dollar_word src out post _ hd ht, blen_cons '$', c1.2.1,
      ← Nat.add_assoc]
    exact run_flush this fun x hx => (stop (hp x hx) _ _ _).2
  | @termReserved d tl post _ hd ht hp hr =>
    have hsrc' : src = pre ++ '$' :: (d :: tl) ++ post := by simp [hsrc]
    have := pushPending_termIdent hsrc' out (List.forall_mem_cons.mpr ⟨identStart_identChar hd, ht⟩)
    simp only [hr, if_true] at this
    rw [List.nil_append, run_dollar_word src out post _ hd ht]
    refine run_stop (fun e => ?_) fun x hx => ?_
    · rw [this, e, hsrc', e]; simp [c1, Nat.add_assoc]
    · rw [(stop (hp x hx) _ _ _).2, this, Option.mem_def.mp hx]; rfl
  | @dollar post _ hp =>
    rw [List.nil_append, run_cons_ok (handleChar_special src out _).2.1]
    exact run_stop (fun _ => rfl) fun d hd => by
      have : (isAsciiAlpha d || decide (d = '_')) = false := hp d hd
      simp [handleChar, this]
  | dcolon =>
    rw [List.cons_append, List.cons_append, List.nil_append,
      run_cons_ok (handleChar_special src out _).2.2.1,
      run_cons_ok (tk' := ⟨out ++ [.dcolon (blen pre)], .main⟩) (by simp [handleChar])]
    simp [Nat.add_assoc]
  | colon _ hp =>
    rw [List.singleton_append,
      run_cons_ok (handleChar_special src out _).2.2.1]
    simp only [blen_cons, blen_nil, Nat.add_zero]
    exact run_flush (fun _ _ => rfl) fun d hd => by
      have : d ≠ ':' := fun e => hp (e ▸ hd)
      simp [handleChar, this, bind]
  | @attr body _ _ hb =>
    have := run_attr out (body ++ post) [] ['['] (by simp) (by simpa using hsrc) fun tail => rfl
    rw [blen_nil, Nat.add_zero, hb, List.length_singleton] at this
    rw [List.cons_append, List.cons_append, run_pound_bracket, this]
    simp [attrRest, c1, ← Nat.add_assoc]
  | @attrBad r j ch _ hb =>
    have := run_attr out r [] ['['] (by simp) (by simpa using hsrc) fun tail => rfl
    rw [blen_nil, Nat.add_zero, hb, List.length_singleton] at this
    rw [List.nil_append, run_pound_bracket, this]
    rfl
  | @pound post _ hp =>
    rw [List.nil_append, run_cons_ok (handleChar_special src out _).2.2.2]
    exact run_stop (fun _ => rfl) fun d hd => by
      have : d ≠ '[' := fun e => hp (e ▸ hd)
      simp [handleChar, this, pushPending, bind, Res.bind]
  | @punct c t _ _ hc hp =>
    have hid : (isAsciiAlpha c || decide (c = '_')) = false := (punct_first hp).2.2.1
    rw [List.singleton_append, run_cons_ok (tk' := ⟨out ++ [t], .main⟩) (by
      simp [handleChar, handleMain, punct_first hp, hid, hc, punctToken_eq, hp])]
    simp
  | @illegal c post _ h1 h2 h3 h4 h5 h6 h7 =>
    have hid : (isAsciiAlpha c || decide (c = '_')) = false := h3
    exact run_cons_err (by simp [handleChar, handleMain, h1, h2, hid, h4, h5, h6, punctToken_eq, h7])

theorem run_main (src : Str) : ∀ (cs : Str) (i : Nat) (pre : Str) (out : List Token), i = blen pre → src = pre ++ cs →
    run src cs i ⟨out, .main⟩ = prepend out (scanFrom cs i) := by
  intro cs i
  induction cs, i using scan_induction with
  | done i => intro pre out _ _; rw [scanFrom_done rfl]; simp [run, loop, finishTk, pushPending, prepend]
  | bad post i j c hl =>
    rintro pre out rfl hsrc
    rw [← List.nil_append post, run_lex out (by simp [hsrc]) hl, scanFrom_lex hl]
    rfl
  | skip w post i k hl ih =>
    rintro pre out rfl hsrc
    rw [run_lex out (by simp [hsrc]) hl, scanFrom_lex hl]
    exact ih (pre ++ w) out (by simp) (by simp [hsrc])
  | emit w post i t k hl ih =>
    rintro pre out rfl hsrc
    rw [run_lex out (by simp [hsrc]) hl, scanFrom_lex hl]
    exact (ih (pre ++ w) _ (by simp) (by simp [hsrc])).trans (prepend_prepend _ _ _)

/-- **C08**: the tokenizer computes exactly the documented lexical rules -/
theorem tokenize_eq_scan (src : Str) : tokenize src = scan src := by
  rw [tokenize_eq_run, run_main src src 0 [] [] rfl rfl]
  unfold scan
  cases scanFrom src 0 <;> simp [prepend]

end Tokenize
end KikiVerif
