/-
The generated automaton *is* the LALR(1) automaton in the textbook sense, the canonical LR(1) collection
(`CanonState`) merged by core: every canonical state lies inside the one machine state with its cores, and every
item of a machine state, lookahead included, lies in a canonical state with that state's cores.
-/
import KikiVerif.Proofs.Generator
import KikiVerif.Proofs.NoPanicGen

namespace KikiVerif
namespace Machine
open LR (Sym Rule Grammar)

/-- the states of the canonical LR(1) automaton -/
inductive CanonState (c : Ctx) (fm : List FirstSet) : (Item → Prop) → Prop
  | init : CanonState c fm (PClos c fm (fun x => x = startItem c))
  | goto {I : Item → Prop} {X : Sym Nat Nat} : CanonState c fm I → (∃ x, I x ∧ symRightOfDot c x = some X) →
      CanonState c fm (PClos c fm (Moved c I X))

variable {c : Ctx} {fm : List FirstSet} {m : Machine}

theorem MachineOK.creach_sub (mok : MachineOK c fm m) {s : Nat} (hs : s < m.states.length) {KC : Core → Prop}
    (hK : ∀ p, KC p → ∃ y ∈ m.states.getD s [], coreOf y = p) {q : Core} (h : CReach c fm KC q) :
    ∃ y ∈ m.states.getD s [], coreOf y = q :=
  CReach.exists_item (S := (· ∈ m.states.getD s [])) hK (mok.good s hs).closed (mok.good s hs).total h

theorem MachineOK.moved_sub (mok : MachineOK c fm m) {t : Transition} (ht : t ∈ m.transitions) :
    ∀ y ∈ transitionItems c (m.states.getD t.frm []) t.sym, y ∈ m.states.getD t.to [] := by
  intro y hy
  obtain ⟨x, hx, hs, rfl⟩ := mem_transitionItems.mp hy
  obtain ⟨t', htr', hsub'⟩ := mok.done t.frm (mok.trans t ht).1 x hx t.sym hs
  obtain rfl : t' = t.to := mok.func _ htr' t ht rfl rfl
  exact hsub' _ hy

theorem target_cores (mok : MachineOK c fm m) {t : Transition} (ht : t ∈ m.transitions) (q : Core) :
    (∃ y ∈ m.states.getD t.to [], coreOf y = q) ↔
      CReach c fm (fun p => ∃ x ∈ transitionItems c (m.states.getD t.frm []) t.sym, coreOf x = p) q :=
  ⟨fun ⟨y, hy, e⟩ => e ▸ mok.tcore t ht y hy,
    mok.creach_sub (mok.trans t ht).2.1 fun _ ⟨x, hx, e⟩ => ⟨x, mok.moved_sub ht x hx, e⟩⟩

theorem start_cores (mok : MachineOK c fm m) (q : Core) :
    (∃ y ∈ m.states.getD m.start [], coreOf y = q) ↔ CReach c fm (fun p => p = (c.numRules, 0)) q :=
  ⟨fun ⟨y, hy, e⟩ => e ▸ mok.zcore y hy,
    mok.creach_sub mok.startLt fun _ e => ⟨startItem c, mok.startItem, e.symm⟩⟩

theorem PClos.mem_of_closed {K : Item → Prop} {S : State} (hK : ∀ x, K x → x ∈ S) (hcl : Closed c fm S) {y : Item}
    (h : PClos c fm K y) : y ∈ S := by
  induction h with
  | base hk => exact hK _ hk
  | step _ himp hyi ih => exact hcl _ ih _ himp _ hyi

theorem init_canon (ok : Assemble.CtxOK c) (hlen : fm.length = c.nN) (mok : MachineOK c fm m) :
    SameCoresPS (PClos c fm (fun x => x = startItem c)) (m.states.getD m.start []) := by
  intro p
  rw [pclos_cores (NoPanic.impliedItems_some ok hlen) p, start_cores mok p]
  exact creach_iff (fun p' => ⟨fun ⟨_, e1, e2⟩ => (e1 ▸ e2).symm, fun e => ⟨startItem c, rfl, e.symm⟩⟩) p

/-- along a transition of the machine, the canonical goto of any item set with the source state's cores has the
target state's cores -/
theorem transition_canon (ok : Assemble.CtxOK c) (hlen : fm.length = c.nN) (mok : MachineOK c fm m)
    {tr : Transition} (htr : tr ∈ m.transitions) {I : Item → Prop}
    (hsc : SameCoresPS I (m.states.getD tr.frm [])) :
    SameCoresPS (PClos c fm (Moved c I tr.sym)) (m.states.getD tr.to []) := by
  intro p
  rw [pclos_cores (NoPanic.impliedItems_some ok hlen) p, target_cores mok htr p]
  exact creach_iff (moved_cores tr.sym hsc) p

/-- wherever a canonical state merged into `s` has a symbol right of a dot, the machine has the transition -/
theorem canon_transition (mok : MachineOK c fm m) {s : Nat} (hs : s < m.states.length) {I : Item → Prop}
    (hsc : SameCoresPS I (m.states.getD s [])) {x : Item} (hx : I x) {X : Sym Nat Nat}
    (hsym : symRightOfDot c x = some X) : ∃ t', (⟨s, t', X⟩ : Transition) ∈ m.transitions := by
  obtain ⟨y, hy, hcore⟩ := (hsc (coreOf x)).mp ⟨x, hx, rfl⟩
  obtain ⟨t', htr, _⟩ := mok.done s hs y hy X ((symRightOfDot_core hcore).trans hsym)
  exact ⟨t', htr⟩

theorem canon_in_machine (ok : Assemble.CtxOK c) (hlen : fm.length = c.nN) (mok : MachineOK c fm m)
    {I : Item → Prop} (h : CanonState c fm I) :
    ∃ s, s < m.states.length ∧ SameCoresPS I (m.states.getD s []) ∧ ∀ y, I y → y ∈ m.states.getD s [] := by
  induction h with
  | init =>
    exact ⟨m.start, mok.startLt, init_canon ok hlen mok, fun y hy =>
      hy.mem_of_closed (fun _ e => e ▸ mok.startItem) (mok.good _ mok.startLt).closed⟩
  | @goto I X _ hX ih =>
    obtain ⟨s, hs, hsc, hsub⟩ := ih
    obtain ⟨x, hx, hsym⟩ := hX
    obtain ⟨t', htr, hmoved⟩ := mok.done s hs x (hsub x hx) X hsym
    have hto := (mok.trans _ htr).2.1
    refine ⟨t', hto, transition_canon ok hlen mok htr hsc, fun y hy => hy.mem_of_closed ?_ (mok.good t' hto).closed⟩
    rintro _ ⟨x', hx', hs', rfl⟩
    exact hmoved _ (mem_transitionItems.mpr ⟨x', hsub x' hx', hs', rfl⟩)

theorem canon_sub (ok : Assemble.CtxOK c) (hlen : fm.length = c.nN) (mok : MachineOK c fm m) {I : Item → Prop}
    (hI : CanonState c fm I) {s : Nat} (hs : s < m.states.length) (hsc : SameCoresPS I (m.states.getD s [])) :
    ∀ y, I y → y ∈ m.states.getD s [] := by
  obtain ⟨s', hs', hsc', hin⟩ := canon_in_machine ok hlen mok hI
  obtain rfl := mok.distinct s' s hs' hs fun p => (hsc' p).symm.trans (hsc p)
  exact hin

theorem machine_in_canon (ok : Assemble.CtxOK c) (hlen : fm.length = c.nN) (mok : MachineOK c fm m) {s : Nat} {y : Item}
    (h : Deriv c fm m.start m.transitions s y) :
    ∃ I, CanonState c fm I ∧ SameCoresPS I (m.states.getD s []) ∧ I y := by
  induction h with
  | start => exact ⟨_, .init, init_canon ok hlen mok, .base rfl⟩
  | closure _ himp hyi ih =>
    obtain ⟨I, hI, hsc, hx⟩ := ih
    -- canonical states are closures, hence closed
    refine ⟨I, hI, hsc, ?_⟩
    cases hI with
    | init => exact .step hx himp hyi
    | goto _ _ => exact .step hx himp hyi
  | @goto s t x X hd hsym htr ih =>
    obtain ⟨I, hI, hsc, hx⟩ := ih
    exact ⟨_, .goto hI ⟨x, hx, hsym⟩, transition_canon ok hlen mok htr hsc, .base ⟨x, hx, hsym, rfl⟩⟩

/-- **the generated automaton is the canonical LR(1) collection merged by core** -/
theorem lalr_exact (ok : Assemble.CtxOK c) (hlen : fm.length = c.nN) (mok : MachineOK c fm m) :
    (∀ I, CanonState c fm I → ∃ s, s < m.states.length ∧ SameCoresPS I (m.states.getD s []) ∧
        ∀ y, I y → y ∈ m.states.getD s []) ∧
    (∀ s, s < m.states.length → ∀ y ∈ m.states.getD s [],
        ∃ I, CanonState c fm I ∧ SameCoresPS I (m.states.getD s []) ∧ I y) ∧
    (∀ s, s < m.states.length → ∃ I, CanonState c fm I ∧ SameCoresPS I (m.states.getD s [])) := by
  refine ⟨fun I hI => canon_in_machine ok hlen mok hI, ?_, ?_⟩
  · intro s hs y hy
    exact machine_in_canon ok hlen mok (mok.just s hs y hy)
  · intro s hs
    obtain ⟨y, hy⟩ := mok.inhabited s hs
    obtain ⟨I, hI, hsc, _⟩ := machine_in_canon ok hlen mok (mok.just s hs y hy)
    exact ⟨I, hI, hsc⟩

end Machine
end KikiVerif
