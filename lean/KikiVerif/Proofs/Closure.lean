/-
`get_closure` (`validated_ast_to_machine/mod.rs`): the invariant `LoopInv` of its worklist loop, and what it gives
when the loop returns (`closure_spec`).
-/
import KikiVerif.Model.Machine
import KikiVerif.Proofs.Oset

namespace KikiVerif
namespace Machine
open LR (Sym Rule Grammar)
open Std

theorem compare_item_def (a b : Item) :
    compare a b = (compare a.rule b.rule).then ((compare a.la b.la).then (compare a.dot b.dot)) := rfl

instance : TransOrd Item :=
  inferInstanceAs (TransCmp (compareLex (compareOn (fun x : Item => x.rule)) (compareLex (compareOn (fun x : Item => x.la)) (compareOn (fun x : Item => x.dot)))))

instance : LawfulEqOrd Item where
  compare_self {a} := by simp
  eq_of_compare {a b} h := by
    rw [compare_item_def] at h
    simp only [Ordering.then_eq_eq, compare_eq_iff_eq] at h
    obtain ⟨h1, h2, h3⟩ := h
    cases a; cases b; simp_all

theorem mem_rhsOf {c : Ctx} {r : Nat} {X : Sym Nat Nat} (h : X ∈ rhsOf c r) :
    X = .n c.g.start ∨ ∃ rule ∈ c.g.rules, X ∈ rule.rhs := by
  unfold rhsOf at h
  split at h
  · exact Or.inl (by simpa using h)
  · split at h
    · rename_i rule hr; exact Or.inr ⟨rule, List.mem_of_getElem? hr, h⟩
    · cases h

theorem mem_ruleIndicesFor {c : Ctx} {b r : Nat} :
    r ∈ ruleIndicesFor c b ↔ ∃ rule, c.g.rules[r]? = some rule ∧ rule.lhs = b := by
  simp [ruleIndicesFor, List.mem_zipIdx_iff_getElem?]

/-- `get_closure_implied_items` when a nonterminal is right of the dot -/
theorem impliedItems_n {c : Ctx} {fm : List FirstSet} {x : Item} {b : Nat} (h : symRightOfDot c x = some (.n b)) :
    impliedItems c fm x = (augmentedFirst fm ((rhsOf c x.rule).drop (x.dot + 1)) x.la).map fun las =>
      las.flatMap fun la => (ruleIndicesFor c b).map fun r => ⟨r, la, 0⟩ := by
  simp only [impliedItems, h]
  cases augmentedFirst fm ((rhsOf c x.rule).drop (x.dot + 1)) x.la <;> rfl

theorem mem_impliedItems {c : Ctx} {fm : List FirstSet} {x y : Item} {imp : List Item}
    (h : impliedItems c fm x = some imp) :
    y ∈ imp ↔ ∃ b las, symRightOfDot c x = some (.n b) ∧
      augmentedFirst fm ((rhsOf c x.rule).drop (x.dot + 1)) x.la = some las ∧
      y.la ∈ las ∧ y.rule ∈ ruleIndicesFor c b ∧ y.dot = 0 := by
  cases hs : symRightOfDot c x with
  | some X =>
    cases X with
    | n b =>
      rw [impliedItems_n hs] at h
      cases y
      cases ha : augmentedFirst fm ((rhsOf c x.rule).drop (x.dot + 1)) x.la <;> simp [ha] at h
      subst h
      simp only [List.mem_flatMap, List.mem_map, Item.mk.injEq, Option.some.injEq, Sym.n.injEq]
      constructor
      · rintro ⟨_, h1, _, h2, rfl, rfl, rfl⟩; exact ⟨_, _, rfl, rfl, h1, h2, rfl⟩
      · rintro ⟨_, _, rfl, rfl, h1, h2, rfl⟩; exact ⟨_, h1, _, h2, rfl, rfl, rfl⟩
    | t a => simp [impliedItems, hs] at h; simp [h]
  | none => simp [impliedItems, hs] at h; simp [h]

/-- items generated from a kernel by repeated implication -/
inductive Reach (c : Ctx) (fm : List FirstSet) (K : List Item) : Item → Prop
  | kernel {x} : x ∈ K → Reach c fm K x
  | step {x y imp} : Reach c fm K x → impliedItems c fm x = some imp → y ∈ imp → Reach c fm K y

/-- closed under `get_closure_implied_items` -/
def Closed (c : Ctx) (fm : List FirstSet) (S : List Item) : Prop :=
  ∀ x ∈ S, ∀ imp, impliedItems c fm x = some imp → ∀ y ∈ imp, y ∈ S

structure LoopInv (c : Ctx) (fm : List FirstSet) (K : List Item) (queue : List Item) (acc : Oset Item) : Prop where
  sorted : Oset.Sorted acc.raw
  kernel : ∀ x ∈ K, x ∈ acc.raw ∨ x ∈ queue
  closed : ∀ x ∈ acc.raw, ∀ imp, impliedItems c fm x = some imp → ∀ y ∈ imp, y ∈ acc.raw ∨ y ∈ queue
  reach : ∀ y, y ∈ acc.raw ∨ y ∈ queue → Reach c fm K y
  gen : ∀ y, y ∈ acc.raw ∨ y ∈ queue → y ∈ K ∨ ∃ x ∈ acc.raw, ∃ imp, impliedItems c fm x = some imp ∧ y ∈ imp
  total : ∀ x ∈ acc.raw, ∃ imp, impliedItems c fm x = some imp

theorem closureLoop_inv {c : Ctx} {fm : List FirstSet} {K : List Item} {fuel : Nat} {queue : List Item}
    {acc : Oset Item} {S : State} (inv : LoopInv c fm K queue acc)
    (h : closureLoop c fm fuel queue acc = some (some S)) : LoopInv c fm K [] ⟨S⟩ := by
  fun_induction closureLoop c fm fuel queue acc with
  | case1 | case4 => cases h
  | case2 => cases h; exact inv
  | case3 k q qs acc hc ih =>
    -- already present: accumulator and queue together hold the same items as before
    have hq : q ∈ acc.raw := (Oset.contains_iff acc q inv.sorted).mp hc
    have hU : ∀ y, y ∈ acc.raw ∨ y ∈ q :: qs ↔ y ∈ acc.raw ∨ y ∈ qs := fun y => by
      rw [List.mem_cons, ← or_assoc, or_iff_left_of_imp (fun e : y = q => e ▸ hq)]
    exact ih ⟨inv.sorted, fun x hx => (hU x).mp (inv.kernel x hx),
      fun x hx imp himp y hy => (hU y).mp (inv.closed x hx imp himp y hy), fun y hy => inv.reach y ((hU y).mpr hy),
      fun y hy => inv.gen y ((hU y).mpr hy), inv.total⟩ h
  | case5 k q qs acc hc imp himp ih =>
    -- `q` moves to the accumulator, the items it implies join the queue
    have hmem : ∀ y, y ∈ (acc.insert q).raw ↔ y = q ∨ y ∈ acc.raw := fun y => Oset.mem_insert acc q y inv.sorted
    have hU : ∀ y, y ∈ (acc.insert q).raw ∨ y ∈ qs ++ imp ↔ (y ∈ acc.raw ∨ y ∈ q :: qs) ∨ y ∈ imp := fun y => by
      rw [hmem, List.mem_append, List.mem_cons, ← or_assoc, ← or_assoc, or_comm (a := y = q)]
    have hqr := inv.reach q (Or.inr List.mem_cons_self)
    refine ih ⟨Oset.insert_sorted acc q inv.sorted, fun x hx => (hU x).mpr (Or.inl (inv.kernel x hx)), ?_,
      fun y hy => ((hU y).mp hy).elim (inv.reach y) (.step hqr himp), ?_, ?_⟩ h
    · intro x hx imp' himp' y hy
      rcases (hmem x).mp hx with rfl | hx
      · exact (hU y).mpr (Or.inr (Option.some.inj (himp.symm.trans himp') ▸ hy))
      · exact (hU y).mpr (Or.inl (inv.closed x hx imp' himp' y hy))
    · intro y hy
      rcases (hU y).mp hy with hy | hy
      · exact (inv.gen y hy).imp_right fun ⟨x, hx, h⟩ => ⟨x, (hmem x).mpr (Or.inr hx), h⟩
      · exact Or.inr ⟨q, (hmem q).mpr (Or.inl rfl), imp, himp, hy⟩
    · intro x hx
      rcases (hmem x).mp hx with rfl | hx
      · exact ⟨imp, himp⟩
      · exact inv.total x hx

/-- **`get_closure`, every grammar, every kernel**: the result is sorted, contains the kernel, is closed under
implication and contains only what the kernel generates -/
theorem closure_spec {c : Ctx} {fm : List FirstSet} {K : List Item} {fuel : Nat} {S : State}
    (h : closureLoop c fm fuel K Oset.new = some (some S)) :
    Oset.Sorted S ∧ (∀ x ∈ K, x ∈ S) ∧ Closed c fm S ∧ (∀ y ∈ S, Reach c fm K y) ∧
      (∀ y ∈ S, y ∈ K ∨ ∃ x ∈ S, ∃ imp, impliedItems c fm x = some imp ∧ y ∈ imp) ∧
      ∀ x ∈ S, ∃ imp, impliedItems c fm x = some imp := by
  have inv := closureLoop_inv (K := K) ⟨List.Pairwise.nil, fun x hx => Or.inr hx, nofun,
    fun y hy => .kernel (hy.resolve_left nofun), fun y hy => Or.inl (hy.resolve_left nofun), nofun⟩ h
  exact ⟨inv.sorted, fun x hx => (inv.kernel x hx).resolve_right nofun,
    fun x hx imp himp y hy => (inv.closed x hx imp himp y hy).resolve_right nofun,
    fun y hy => inv.reach y (Or.inl hy), fun y hy => inv.gen y (Or.inl hy), inv.total⟩

end Machine
end KikiVerif
