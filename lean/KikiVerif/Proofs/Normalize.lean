/-
`normalize_machine`: sorting the states and renumbering is an isomorphism — there is a bijection `π` from old
to new state indices under which states, transitions and the start state correspond exactly
(provided no two states are equal, which the builder guarantees: no two have the same core).
-/
import KikiVerif.Proofs.Build

namespace KikiVerif
namespace Machine
open LR (Sym Rule Grammar)
open Std

theorem compare_transition_def (a b : Transition) :
    compare a b = (compare a.frm b.frm).then ((compare a.to b.to).then
      ((compare (symTag a.sym) (symTag b.sym)).then (compare (symVal a.sym) (symVal b.sym)))) := rfl

instance : TransOrd Transition :=
  inferInstanceAs (TransCmp (compareLex (compareOn (fun x : Transition => x.frm))
    (compareLex (compareOn (fun x : Transition => x.to))
      (compareLex (compareOn (fun x : Transition => symTag x.sym)) (compareOn (fun x : Transition => symVal x.sym))))))

theorem sym_ext {a b : Sym Nat Nat} (h1 : symTag a = symTag b) (h2 : symVal a = symVal b) : a = b := by
  cases a <;> cases b <;> simp_all [symTag, symVal]

instance : LawfulEqOrd Transition where
  compare_self {a} := by simp
  eq_of_compare {a b} h := by
    rw [compare_transition_def] at h
    simp only [Ordering.then_eq_eq, compare_eq_iff_eq] at h
    obtain ⟨h1, h2, h3, h4⟩ := h
    cases a; cases b
    simp only at h1 h2 h3 h4
    subst h1; subst h2
    rw [sym_ext h3 h4]

theorem findIdx_of_get {α : Type} (l : List (α × Nat)) (p : Nat) (x : α × Nat) (hnd : (l.map (·.2)).Nodup)
    (h : l[p]? = some x) : l.findIdx? (fun q => q.2 == x.2) = some p := by
  obtain ⟨hp, rfl⟩ := List.getElem?_eq_some_iff.mp h
  rw [List.Nodup, List.pairwise_map, List.pairwise_iff_getElem] at hnd
  exact List.findIdx?_eq_some_iff_getElem.mpr ⟨hp, by simp, fun j hj => by simpa using hnd j p (by omega) hp hj⟩

/-- old index ↦ new index -/
def renum (b : Builder) (i : Nat) : Nat := (updateIndex (sortedIndexed b.states) i).getD 0

structure Iso (b : Builder) (m : Machine) : Prop where
  len : m.states.length = b.states.length
  lt : ∀ i, i < b.states.length → renum b i < m.states.length
  state : ∀ i, i < b.states.length → m.states.getD (renum b i) [] = b.states.getD i []
  surj : ∀ p, p < m.states.length → ∃ i, i < b.states.length ∧ renum b i = p
  inj : ∀ i j, i < b.states.length → j < b.states.length → renum b i = renum b j → i = j
  start : m.start = renum b 0
  trans : ∀ t', t' ∈ m.transitions ↔ ∃ t ∈ b.transitions, t' = ⟨renum b t.frm, renum b t.to, t.sym⟩
  tsorted : Oset.Sorted m.transitions

-- `hne` is not needed: `normalize b = some m` already implies it
set_option linter.unusedVariables false in
theorem normalize_iso {b : Builder} {m : Machine} (h : normalize b = some m) (hne : 0 < b.states.length)
    (hd : ∀ i j, i < b.states.length → j < b.states.length → b.states.getD i [] = b.states.getD j [] → i = j) :
    Iso b m := by
  unfold normalize at h
  simp only at h
  have hren : ∀ i, renum b i = (updateIndex (sortedIndexed b.states) i).getD 0 := fun _ => rfl
  generalize hS : sortedIndexed b.states = S at h hren
  -- the sorted list holds every state of the builder once, with its index
  have hperm : S.Perm b.states.zipIdx := by rw [← hS]; exact List.mergeSort_perm _ _
  have hmem : ∀ x, x ∈ S ↔ b.states[x.2]? = some x.1 := fun x => by
    rw [hperm.mem_iff]; exact List.mem_zipIdx_iff_getElem?
  have hnd : (S.map (·.2)).Nodup := by
    rw [(hperm.map _).nodup_iff, List.zipIdx_map_snd]; exact List.nodup_range'
  -- position `p` holds the state with old index `x.2`, which is renumbered to `p`
  have hpos : ∀ {p x}, S[p]? = some x → x.2 < b.states.length ∧ b.states.getD x.2 [] = x.1 ∧ renum b x.2 = p := by
    intro p x hp
    obtain ⟨hlt, hget⟩ := List.getElem?_eq_some_iff.mp ((hmem x).mp (List.mem_of_getElem? hp))
    exact ⟨hlt, by rw [List.getD_of_lt hlt, hget], by rw [hren, updateIndex, findIdx_of_get S p x hnd hp]; rfl⟩
  have hidx : ∀ i, i < b.states.length → ∃ p, S[p]? = some (b.states.getD i [], i) := fun i hi =>
    List.getElem?_of_mem ((hmem _).mpr (by rw [List.getD_of_lt hi]; exact List.getElem?_eq_getElem hi))
  -- no two states are equal, so the sorted list is strictly ascending and `Oset::from_iter` drops nothing
  have hstrict : Oset.Sorted (S.map (·.1)) := by
    have hpw : S.Pairwise (fun a c => leState a.1 c.1 = true) := by
      rw [← hS]
      exact List.pairwise_mergeSort (fun a c d h1 h2 => Oset.leB_trans a.1 c.1 d.1 h1 h2)
        (fun a c => Oset.leB_total a.1 c.1) _
    rw [List.Nodup, List.pairwise_map] at hnd
    rw [Oset.Sorted, List.pairwise_map]
    refine (hpw.and hnd).imp_of_mem fun {a c} ha hc ⟨hle, hne2⟩ => ?_
    obtain ⟨p, hp⟩ := List.getElem?_of_mem ha
    obtain ⟨q, hq⟩ := List.getElem?_of_mem hc
    have hneq : a.1 ≠ c.1 := fun e => hne2 (hd a.2 c.2 (hpos hp).1 (hpos hq).1 (by rw [(hpos hp).2.1, (hpos hq).2.1, e]))
    unfold leState at hle
    cases hcmp : compare a.1 c.1 with
    | lt => rfl
    | eq => exact absurd (LawfulEqOrd.eq_of_compare hcmp) hneq
    | gt => simp [hcmp] at hle
  have hof : (Oset.ofList (S.map (·.1))).raw = S.map (·.1) :=
    Oset.sorted_ext _ _ (Oset.ofList_sorted _) hstrict (fun x => Oset.mem_ofList _ x)
  split at h
  · rename_i ts s hts hs
    cases h
    have hts' : ts = b.transitions.map fun t => (⟨renum b t.frm, renum b t.to, t.sym⟩ : Transition) := by
      refine (List.map_id ts).symm.trans (List.map_of_mapM_eq_some hts fun t _ y hy => ?_)
      split at hy
      · rename_i f t' hf ht'
        cases hy
        rw [hren, hren, hf, ht']; rfl
      · cases hy
    have hget : ∀ {p x}, S[p]? = some x → (Oset.ofList (S.map (·.1))).raw.getD p [] = x.1 := fun hp => by
      rw [hof, List.getD_eq_getElem?_getD, List.getElem?_map, hp]; rfl
    have hlen : (Oset.ofList (S.map (·.1))).raw.length = S.length := by rw [hof, List.length_map]
    refine
      { len := by rw [hlen, hperm.length_eq]; simp
        lt := ?_
        state := ?_
        surj := ?_
        inj := ?_
        start := by rw [hren, hs]; rfl
        trans := fun t' => by
          simp only [Oset.mem_ofList, hts', List.mem_map]
          exact ⟨fun ⟨t, ht, e⟩ => ⟨t, ht, e.symm⟩, fun ⟨t, ht, e⟩ => ⟨t, ht, e.symm⟩⟩
        tsorted := Oset.ofList_sorted _ }
    · intro i hi
      obtain ⟨p, hp⟩ := hidx i hi
      rw [(hpos hp).2.2, hlen]
      exact (List.getElem?_eq_some_iff.mp hp).1
    · intro i hi
      obtain ⟨p, hp⟩ := hidx i hi
      rw [(hpos hp).2.2]
      exact hget hp
    · intro p hp
      have := hpos (List.getElem?_eq_getElem (hlen ▸ hp))
      exact ⟨_, this.1, this.2.2⟩
    · intro i j hi hj e
      obtain ⟨p, hp⟩ := hidx i hi
      obtain ⟨q, hq⟩ := hidx j hj
      rw [(hpos hp).2.2, (hpos hq).2.2] at e
      rw [e, hq] at hp
      exact (congrArg Prod.snd (Option.some.inj hp)).symm
  · cases h

end Machine
end KikiVerif
