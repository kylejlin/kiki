/-
`generate` (the model `Generate.stages`) terminates: the front-end parse loop stops by the potential of
`Proofs/HaltFront`, the generator loops by `Proofs/TermBuild`.  With `Pipeline.stages_no_panic` the pipeline
always ends in a result or an error.
-/
import KikiVerif.Proofs.HaltFront
import KikiVerif.Proofs.Pipeline
import KikiVerif.Proofs.TermBuild

namespace KikiVerif
namespace HaltFront
open LR

/-- **`generate` terminates**: for every source text there is an amount of fuel from which on the pipeline never
stops for lack of fuel, in any of its loops -/
theorem stages_no_timeout (src sha : Str) :
    ∃ F, ∀ fuel, F ≤ fuel → ∀ site, (Generate.stages src sha fuel).stop ≠ .timeout site := by
  rcases C08.C08_tokenize_total src with ⟨toks, htok⟩ | ⟨j, c, htok⟩
  case inr =>
    refine ⟨0, fun fuel _ site => ?_⟩
    unfold Generate.stages
    simp only [Id.run, pure]
    rw [htok]; intro h; cases h
  obtain ⟨out0, hparse⟩ := front_parse_stable toks
  -- unfolded, `parseBound` contains the search for the potential: keep it out of the kernel's sight
  generalize parseBound toks.length = B at hparse
  -- the fuel the generator needs, if the file gets that far
  let genNeed : Nat :=
    match out0 with
    | .ok cst =>
      match FrontParse.cstToAst cst with
      | some ast =>
        match Validate.validateAst ast with
        | .ok vf =>
          match Encode.encode vf with
          | some enc => Machine.genFuel enc.ctx
          | none => 0
        | _ => 0
      | none => 0
    | _ => 0
  refine ⟨B + genNeed, fun fuel hf site => ?_⟩
  unfold Generate.stages
  simp only [Id.run, pure]
  rw [htok]
  simp only
  rw [hparse fuel (by omega)]
  -- one goal for each exit of `generate`; those that are no timeout close by `cases`
  repeat' split
  all_goals try (intro h; cases h; done)
  · next h => cases h
  -- the exit of the generator's loops
  · next hm =>
    cases ‹some out0 = some _›
    simp only [genNeed, *] at hf
    obtain ⟨m, hm'⟩ := Machine.machineOf_terminates (Encode.encode_ok ‹_›) fuel (by omega)
    rw [hm'] at hm
    cases hm

/-- **`generate` is total**: with enough fuel the pipeline ends, on every source text, in exactly one of:
emitted text, a `KikiErr`, or a table conflict -/
theorem stages_total (src sha : Str) :
    ∃ F, ∀ fuel, F ≤ fuel →
      match (Generate.stages src sha fuel).stop with
      | .done => True
      | .err _ => True
      | .conflict _ _ _ => True
      | .panic _ => False
      | .timeout _ => False := by
  obtain ⟨F, hF⟩ := stages_no_timeout src sha
  refine ⟨F, fun fuel hf => ?_⟩
  cases hs : (Generate.stages src sha fuel).stop <;>
    first | trivial | exact Pipeline.stages_no_panic src sha fuel _ hs | exact hF fuel hf _ hs

end HaltFront
end KikiVerif
