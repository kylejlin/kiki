/-
End to end: `generate` (the model `Generate.stages`, which mirrors `lib.rs::generate` stage by stage with every
`unwrap` / slice / index site explicit) never reaches a panic site, for every source text and every fuel.
-/
import KikiVerif.Proofs.EmitTotal
import KikiVerif.Proofs.ParseErr
import KikiVerif.Proofs.NoPanic
import KikiVerif.Proofs.Encode
import KikiVerif.Properties.C09
import KikiVerif.Properties.C08
import KikiVerif.Model.Generate

namespace KikiVerif
namespace Pipeline
open Spec EmitTotal

theorem front_dollarFree (src : Str) (toks : List Token) (htok : Tokenize.tokenize src = .ok toks) (fuel : Nat)
    (cst : FrontParse.CTree) (hp : FrontParse.parse toks fuel = some (.ok cst)) (ast : Ast.File)
    (ha : FrontParse.cstToAst cst = some ast) : DollarFree ast := by
  obtain ⟨ast', h1, h2⟩ := C09.C09_flatten toks fuel cst hp
  rw [ha] at h1
  cases h1
  intro n hn
  rw [h2] at hn
  obtain ⟨tok, htokm, he⟩ := List.mem_map.mp hn
  cases tok with
  | termIdent n' p =>
    simp only [erase, Tk.termIdent.injEq] at he
    subst he
    obtain ⟨_, hpos⟩ := tokenize_positions src toks htok _ htokm
    exact Tokenize.removeDollars_identChars n' hpos.2
  | _ => simp only [erase] at he; cases he

theorem parse_error_ok (src : Str) (toks : List Token) (htok : Tokenize.tokenize src = .ok toks) (fuel : Nat)
    (idx : Option Nat) (h : FrontParse.parse toks fuel = some (.unexpected idx)) :
    ∃ e, FrontParse.unexpectedToErr src (idx.bind (toks[·]?)) = .ok e := by
  obtain ⟨_, h2, h3⟩ := C09.C09_error_span src toks htok fuel idx h
  cases hb : idx.bind (toks[·]?) with
  | none => exact ⟨_, h3⟩
  | some t => exact ⟨_, h2 t hb⟩

theorem generator_no_panic (vf : VFile.File) (enc : Encode.Enc) (he : Encode.encode vf = some enc) (fuel : Nat) :
    Machine.machineOf enc.ctx fuel ≠ some none ∧
    ∀ m, Machine.machineOf enc.ctx fuel = some (some m) → ∀ site, Table.machineToTable enc.ctx m ≠ .panic site := by
  have ok := Encode.encode_ok he
  refine ⟨NoPanic.machineOf_no_panic ok fuel, fun m hm site => ?_⟩
  obtain ⟨fm, _, mok⟩ := Machine.machineOf_ok ok.terms hm
  exact NoPanic.machineToTable_no_panic ok mok site

/-- **`generate` never panics**: whatever the source text and the fuel, the pipeline never stops at a panic
site — tokenizer slices, front-end parser, parse-error slice, `cst_to_ast`, validation, symbol coding,
FIRST-map `unwrap`s, `index_map[i]`, `rules[i]`, `get_shift_dest(..).unwrap()`, "Impossible: goto conflict",
table index checks, `get_type(..).unwrap()`, method lookup, unique-identifier search -/
theorem stages_no_panic (src sha : Str) (fuel : Nat) (site : String) :
    (Generate.stages src sha fuel).stop ≠ .panic site := by
  unfold Generate.stages
  simp only [Id.run, pure]
  -- one goal for each exit of `generate`; those that are no panic close by `cases`
  repeat' split
  all_goals try (intro h; cases h; done)
  -- the nine panic exits, in the order of `lib.rs`
  · next h => rcases C08.C08_tokenize_total src with ⟨_, e⟩ | ⟨_, _, e⟩ <;> rw [e] at h <;> cases h
  · next hp => exact (C09.C09_parse_correct _ _ _ hp).1.elim
  · next h => obtain ⟨e, he⟩ := parse_error_ok src _ ‹_› fuel _ ‹_›; rw [he] at h; cases h
  · next hp _ h => obtain ⟨ast, hast, _⟩ := C09.C09_flatten _ fuel _ hp; rw [hast] at h; cases h
  · next h => exact absurd h (Validate.validate_no_panic _ _)
  · next h =>
    obtain ⟨enc, henc⟩ := encode_total ‹_› (front_dollarFree src _ ‹_› fuel _ ‹_› _ ‹_›); rw [henc] at h; cases h
  · next hm => exact absurd hm (generator_no_panic _ _ ‹_› fuel).1
  · next ht => exact absurd ht ((generator_no_panic _ _ ‹_› fuel).2 _ ‹_› _)
  · next h =>
    obtain ⟨md, hmd⟩ := moduleOf_total ‹_› (front_dollarFree src _ ‹_› fuel _ ‹_› _ ‹_›) _ _ sha; rw [hmd] at h; cases h

end Pipeline
end KikiVerif
