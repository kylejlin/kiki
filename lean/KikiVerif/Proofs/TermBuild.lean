/-
Termination of the worklist of `UnnormalizedMachineBuilder::build`.

A potential bounds the work: there are at most `2 ^ C` states (no two share a core, a core set is a subset of
the `C` possible cores) and a state holds at most `U` items.  Appending a state or merging new items into one
lowers the potential by at least as much as the queue grows; popping a state shortens the queue.
-/
import KikiVerif.Proofs.TermFirst
import KikiVerif.Proofs.TermClosure
import KikiVerif.Proofs.NoPanicGen

namespace KikiVerif
namespace Machine
open LR (Sym Rule Grammar)

/-! ### at most `2 ^ C` states -/

def coreUniv (c : Ctx) : List Core :=
  (List.range (c.numRules + 1)).flatMap fun r => (List.range (maxDot c + 1)).map fun d => (r, d)

theorem mem_coreUniv {c : Ctx} {y : Item} (h : WfItem c y) : coreOf y ∈ coreUniv c := by
  obtain ⟨h1, h2, _⟩ := h
  unfold coreUniv coreOf
  simp only [List.mem_flatMap, List.mem_map, List.mem_range]
  have := rhsOf_length_le c y.rule
  exact ⟨y.rule, by omega, y.dot, by omega, rfl⟩

/-- which of the possible cores a state has -/
def coreVec (c : Ctx) (S : State) : List Bool := (coreUniv c).map fun p => S.any fun x => coreOf x == p

def allVecs : Nat → List (List Bool)
  | 0 => [[]]
  | n + 1 => (allVecs n).flatMap fun v => [false :: v, true :: v]

theorem allVecs_length : ∀ n, (allVecs n).length = 2 ^ n := by
  intro n
  induction n with
  | zero => rfl
  | succ n ih =>
    simp only [allVecs, List.length_flatMap]
    have : ((allVecs n).map fun v => [false :: v, true :: v].length) = (allVecs n).map fun _ => 2 := by
      apply List.map_congr_left; intro v _; rfl
    rw [this, List.map_const', List.sum_replicate_nat, ih, Nat.pow_succ]

theorem mem_allVecs : ∀ (v : List Bool), v ∈ allVecs v.length := by
  intro v
  induction v with
  | nil => simp [allVecs]
  | cons b v ih =>
    simp only [List.length_cons, allVecs, List.mem_flatMap]
    refine ⟨v, ih, ?_⟩
    cases b <;> simp

theorem coreVec_inj {c : Ctx} {S1 S2 : State} (h1 : ∀ y ∈ S1, WfItem c y) (h2 : ∀ y ∈ S2, WfItem c y)
    (h : coreVec c S1 = coreVec c S2) : SameCores S1 S2 := by
  have key : ∀ {A B : State}, (∀ y ∈ A, WfItem c y) → coreVec c A = coreVec c B →
      ∀ p, (∃ x ∈ A, coreOf x = p) → ∃ x ∈ B, coreOf x = p := by
    rintro A B hA h _ ⟨x, hx, rfl⟩
    have ht : (A.any fun y => coreOf y == coreOf x) = true := List.any_eq_true.mpr ⟨x, hx, by simp⟩
    rw [List.map_inj_left.mp h (coreOf x) (mem_coreUniv (hA x hx))] at ht
    obtain ⟨y, hy, e⟩ := List.any_eq_true.mp ht
    exact ⟨y, hy, by simpa using e⟩
  exact fun p => ⟨key h1 h p, key h2 h.symm p⟩

theorem states_count {c : Ctx} (states : List State) (hw : ∀ i, i < states.length → ∀ y ∈ states.getD i [], WfItem c y)
    (hd : ∀ i j, i < states.length → j < states.length → SameCores (states.getD i []) (states.getD j []) → i = j) :
    states.length ≤ 2 ^ (coreUniv c).length := by
  have hnd : (states.map (coreVec c)).Nodup := by
    rw [List.nodup_iff_pairwise_ne, List.pairwise_iff_getElem]
    intro i j hi hj hij e
    simp only [List.length_map] at hi hj
    simp only [List.getElem_map] at e
    have h1 := hw i hi
    have h2 := hw j hj
    rw [List.getD_of_lt hi] at h1
    rw [List.getD_of_lt hj] at h2
    have := coreVec_inj h1 h2 e
    have := hd i j hi hj (by rw [List.getD_of_lt hi, List.getD_of_lt hj]; exact this)
    omega
  have hsub : states.map (coreVec c) ⊆ allVecs (coreUniv c).length := by
    intro v hv
    obtain ⟨S, _, rfl⟩ := List.mem_map.mp hv
    have := mem_allVecs (coreVec c S)
    unfold coreVec at this ⊢
    simpa using this
  have := hnd.length_le_of_subset hsub
  rw [allVecs_length] at this
  simpa using this

def room (c : Ctx) (states : List State) : Nat := (states.map fun S => (allItems c).length - S.length).sum

def potential (c : Ctx) (b : Builder) : Nat :=
  (2 ^ (coreUniv c).length - b.states.length) * ((allItems c).length + 1) + room c b.states

def weight (c : Ctx) (b : Builder) : Nat := b.queue.length + potential c b

theorem enqueueState_weight {c : Ctx} {fm : List FirstSet} {E : Nat → Sym Nat Nat → Prop} {b : Builder} {tgt : State}
    (inv : BInv c fm E b) (hg : Good c fm tgt) (hk : ∃ y ∈ tgt, 1 ≤ y.dot) :
    weight c (enqueueStateIfNeeded b tgt).1 ≤ weight c b := by
  have sp := enqueueState_spec inv hg hk
  have hcount : (enqueueStateIfNeeded b tgt).1.states.length ≤ 2 ^ (coreUniv c).length :=
    states_count _ (fun i hi y hy => (sp.good i hi).wf y hy) sp.distinct
  unfold weight potential
  unfold enqueueStateIfNeeded at hcount ⊢
  split at hcount
  · -- a merge: the state grows by at least one item if it is queued again
    rename_i i hidx
    obtain ⟨hi, _, _⟩ := List.findIdx?_eq_some_iff_getElem.mp hidx
    have hgi := inv.good i hi
    obtain ⟨a1, a2, _, l1, l2⟩ := addItems_spec tgt ⟨b.states.getD i []⟩ false hgi.sorted
    dsimp only
    generalize addItemsIfNeeded ⟨b.states.getD i []⟩ tgt false = res at l1 l2 a1 a2 ⊢
    obtain ⟨new, added⟩ := res
    have hnewU : new.raw.length ≤ (allItems c).length :=
      wf_length_le a1 fun y hy => ((a2 y).mp hy).elim (hgi.wf y) (hg.wf y)
    have hroom := List.sum_map_set (fun S : State => (allItems c).length - S.length) new.raw
      (List.getElem?_eq_some_getD hi [])
    have l1 : (b.states.getD i []).length ≤ new.raw.length := l1
    simp only [room, List.length_set] at hroom ⊢
    cases added with
    | false => simp only [Bool.false_eq_true, if_false]; omega
    | true =>
      have : (b.states.getD i []).length < new.raw.length := (l2 rfl).resolve_left nofun
      simp only [if_true, List.length_append, List.length_singleton]
      omega
  · -- a new state: there is room for it
    simp only [List.length_append, List.length_singleton] at hcount ⊢
    simp only [room, List.map_append, List.sum_append, List.map_cons, List.map_nil, List.sum_cons, List.sum_nil]
    have e : 2 ^ (coreUniv c).length - b.states.length = (2 ^ (coreUniv c).length - (b.states.length + 1)) + 1 := by omega
    rw [e, Nat.add_mul]
    omega

theorem enqueueTarget_total {c : Ctx} {fm : List FirstSet} (ok : Assemble.CtxOK c) (hlen : fm.length = c.nN)
    (hfb : FmBound c.nT fm) {E : Nat → Sym Nat Nat → Prop} {b : Builder} {cf i : Nat} {X : Sym Nat Nat}
    (inv : BInv c fm E b) (hi : i < b.states.length) (hX : ∃ x ∈ b.states.getD i [], symRightOfDot c x = some X)
    (hcf : closureFuel c ≤ cf) :
    ∃ b', enqueueTransitionTarget c fm cf b i X = some (some b') ∧ weight c b' ≤ weight c b := by
  have hgi := inv.good i hi
  have hKw := transitionItems_wf (X := X) hgi.wf
  have hterm : closureLoop c fm cf (transitionItems c (b.states.getD i []) X) Oset.new ≠ none := by
    apply closureLoop_terminates ok hlen hfb cf _ _ List.Pairwise.nil nofun hKw
    have h1 : (transitionItems c (b.states.getD i []) X).length ≤ _ := List.length_filterMap_le _ _
    have h2 := wf_length_le hgi.sorted hgi.wf
    simp only [closureMeasure, closureFuel, List.length_nil, Nat.sub_zero] at hcf ⊢
    omega
  obtain ⟨tgt, hcl⟩ := Option.eq_some_some hterm (NoPanic.closureLoop_no_panic ok hlen _ _ _)
  obtain ⟨hg, hk, _⟩ := good_of_closure ok.terms hfb hcl hX hgi.wf
  simp only [enqueueTransitionTarget, hcl]
  exact ⟨_, rfl, enqueueState_weight inv hg hk⟩

theorem enqueueTargets_total {c : Ctx} {fm : List FirstSet} (ok : Assemble.CtxOK c) (hlen : fm.length = c.nN)
    (hfb : FmBound c.nT fm) {E0 : Nat → Sym Nat Nat → Prop} {cf i : Nat} (hcf : closureFuel c ≤ cf) :
    ∀ (ks : List Nat) (b : Builder), Pending c fm E0 i ks b →
      ∃ b', enqueueTargets c fm cf i ks b = some (some b') ∧ weight c b' ≤ weight c b
  | [], b, _ => ⟨b, rfl, Nat.le_refl _⟩
  | k :: ks, b, h => by
    obtain ⟨b1, hstep, hw1⟩ := enqueueTarget_total ok hlen hfb h.1 h.2.1 (h.2.2 k List.mem_cons_self) hcf
    obtain ⟨b', hrest, hw2⟩ := enqueueTargets_total ok hlen hfb hcf ks b1 (h.step ok.terms hfb hstep)
    exact ⟨b', by simp only [enqueueTargets, hstep]; exact hrest, Nat.le_trans hw2 hw1⟩

/-- **the worklist terminates** -/
theorem buildLoop_terminates {c : Ctx} {fm : List FirstSet} (ok : Assemble.CtxOK c) (hlen : fm.length = c.nN)
    (hfb : FmBound c.nT fm) {cf : Nat} (hcf : closureFuel c ≤ cf) :
    ∀ (k : Nat) (b : Builder), BInv c fm (fun _ _ => False) b → weight c b < k →
      ∃ b', buildLoop c fm cf k b = some (some b') := by
  intro k
  induction k with
  | zero => intro b _ h; omega
  | succ k ih =>
    intro b inv hk
    obtain ⟨states, trans, queue⟩ := b
    cases queue with
    | nil => exact ⟨_, rfl⟩
    | cons i q =>
      have hp := inv.pop ok.terms
      obtain ⟨b1, hstep, hw⟩ := enqueueTargets_total ok hlen hfb hcf _ _ hp
      have inv1 := enqueueTargets_spec ok.terms hfb hp hstep
      have hw0 : weight c ⟨states, trans, q⟩ + 1 = weight c ⟨states, trans, i :: q⟩ := by
        unfold weight potential
        simp only [List.length_cons]
        omega
      obtain ⟨b', hb'⟩ := ih b1 inv1 (by omega)
      exact ⟨b', by simp only [buildLoop, hstep]; exact hb'⟩

/-- fuel that is always enough for `validated_ast_to_machine` -/
def genFuel (c : Ctx) : Nat :=
  c.nN * (c.nT + 1) + closureFuel c + 2 ^ (coreUniv c).length * ((allItems c).length + 1) + 2

/-- **`validated_ast_to_machine` terminates, every grammar**: with any fuel from `genFuel c` on, the model returns
a machine (never "out of fuel", never a panic) -/
theorem machineOf_terminates {c : Ctx} (ok : Assemble.CtxOK c) (fuel : Nat) (h : genFuel c ≤ fuel) :
    ∃ m, machineOf c fuel = some (some m) := by
  unfold genFuel at h
  obtain ⟨fm, hfm⟩ := Option.eq_some_some (firstSets_terminates ok fuel (by omega)) (NoPanic.firstSets_no_panic ok fuel)
  have hlen : fm.length = c.nN := (firstSets_closed hfm).2.1
  have hfb := firstSets_bound ok.terms hfm
  have hstartw : WfItem c (startItem c) := ⟨Nat.le_refl _, Nat.zero_le _, Nat.le_refl _⟩
  have hU : 1 ≤ (allItems c).length := List.length_pos_of_mem (mem_allItems hstartw)
  obtain ⟨start, hst⟩ := Option.eq_some_some
    (closureLoop_terminates ok hlen hfb fuel [startItem c] Oset.new List.Pairwise.nil nofun
      (fun y hy => List.mem_singleton.mp hy ▸ hstartw) (by
        simp only [closureMeasure, closureFuel, Oset.new, List.length_nil, Nat.sub_zero, List.length_singleton] at h ⊢
        omega))
    (NoPanic.closureLoop_no_panic ok hlen fuel _ _)
  have inv0 := initial_inv ok.terms hfb hst
  obtain ⟨b, hb⟩ := buildLoop_terminates ok hlen hfb (cf := fuel) (by omega) fuel _ inv0 (by
    simp only [weight, potential, room, closureFuel, List.length_singleton, List.map_cons, List.map_nil,
      List.sum_cons, List.sum_nil] at h ⊢
    have h1 : (2 ^ (coreUniv c).length - 1) * ((allItems c).length + 1) ≤
        2 ^ (coreUniv c).length * ((allItems c).length + 1) := Nat.mul_le_mul_right _ (Nat.sub_le _ _)
    omega)
  obtain ⟨inv, _⟩ := buildLoop_spec ok.terms hfb _ _ _ inv0 hb
  obtain ⟨m, hm⟩ := NoPanic.normalize_some inv.nonempty (fun t ht => ⟨(inv.trans t ht).frm, (inv.trans t ht).to⟩)
  exact ⟨m, by simp only [machineOf, hfm, show closureLoop c fm fuel [⟨c.numRules, c.nT, 0⟩] Oset.new = _ from hst, hb, hm]⟩

end Machine
end KikiVerif
