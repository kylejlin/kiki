/-
`machine_to_table` cannot panic on the automaton of a well-formed coded grammar: it never hits `rules[i]`,
`get_shift_dest(..).unwrap()`, the "Impossible: goto conflict" or an out-of-range table index
(`machineToTable c m ≠ .panic _`).
-/
import KikiVerif.Proofs.Assemble
import KikiVerif.Proofs.NoPanicGen

namespace KikiVerif

namespace NoPanic
open Machine Table Assemble
open LR (Sym Rule Grammar Action)

variable {c : Ctx} {fm : List FirstSet} {m : Machine}

/-- at most one transition per state and symbol, so no goto key comes twice -/
theorem gotoEntries_nodup (mok : MachineOK c fm m) : ((gotoEntries m.transitions).map (·.1)).Nodup := by
  unfold gotoEntries
  rw [List.Nodup, List.pairwise_map, List.pairwise_filterMap]
  refine (List.Pairwise.and_mem.mp mok.tnodup).imp ?_
  rintro ⟨f1, t1, X1⟩ ⟨f2, t2, X2⟩ ⟨h1, h2, hne⟩ e1 he1 e2 he2 hk
  cases X1 <;> cases X2 <;> simp only [Option.some.injEq, reduceCtorEq] at he1 he2
  subst he1 he2
  cases hk
  exact hne (congrArg (Transition.mk f1 · _) (mok.func _ h1 _ h2 rfl rfl))

/-- **`machine_to_table` never panics** on the automaton of a well-formed grammar: it returns a table or reports
a conflict (which is genuine, `Proofs/Table.conflict_genuine`) -/
theorem machineToTable_no_panic (ok : CtxOK c) (mok : MachineOK c fm m) (site : String) :
    machineToTable c m ≠ .panic site := by
  have out := actions_outcome c m
  have item : ∀ {s x}, (s, x) ∈ [] ++ pairs m.states 0 → s < m.states.length ∧ x ∈ m.states.getD s [] := by
    intro s x hp
    obtain ⟨st, hst, hx⟩ := mem_pairs.mp hp
    exact ⟨(List.getElem?_eq_some_iff.mp hst).1, by rw [List.getD_eq_getElem?_getD, hst]; exact hx⟩
  cases hres : addActions c m m.states 0 ⟨[], []⟩ with
  | conflict s e n => unfold machineToTable; rw [hres]; nofun
  | panic site' =>
    rw [hres] at out
    obtain ⟨⟨s, x⟩, hp, tb, h⟩ := out
    obtain ⟨hs, hx⟩ := item hp
    have hwf := (mok.good s hs).wf x hx
    refine absurd h (addItemAction_ne_panic tb hwf.1 hwf.2.1 (fun a hX => ?_) site')
    obtain ⟨t', htr, _⟩ := mok.done s hs x hx _ hX
    exact ⟨t', getShiftDest_of_mem mok.func htr⟩
  | ok tb =>
    rw [hres] at out
    -- every write is in range
    obtain ⟨la, hla⟩ := gridFold_some (w := c.nT + 1) (n := m.states.length) (v := (·.2)) tb.actions
      (emptyTable c m).actions (by
        rintro ⟨⟨s, col⟩, it, a⟩ he
        obtain ⟨hp, hd⟩ := out.1.filled _ _ _ _ he
        exact ⟨Nat.lt_succ_of_le (demand_col_le ok mok (item hp).1 (item hp).2 hd), (item hp).1⟩)
      (by simp [emptyTable])
    obtain ⟨lg, hlg⟩ := gridFold_some (w := c.nN) (n := m.states.length) (v := some) (gotoEntries m.transitions)
      (emptyTable c m).gotos (by
        rintro ⟨⟨s, b⟩, to⟩ he
        have htr := mem_gotoEntries.mp he
        obtain ⟨y, hy, hyd⟩ := mok.hasKernel _ htr
        obtain ⟨x, hx, _, _, hsym⟩ := (mok.trans _ htr).2.2.2 y hy hyd
        exact ⟨sym_bound ok hsym, (mok.trans _ htr).1⟩)
      (by simp [emptyTable])
    have : machineToTable c m = .ok _ := machineToTable_eq_ok.mpr
      ⟨tb, hres, gotoEntries_nodup mok, by rw [buildAsIs_eq]; simp only [emptyTable] at hla hlg ⊢; rw [hla, hlg]; rfl⟩
    rw [this]; nofun

end NoPanic

namespace Machine
open Table

variable {c : Ctx} {fm : List FirstSet} {m : Machine}

/-- `machine_to_table` returns a table, and then no state has a genuine clash, or reports a genuine clash -/
theorem table_or_conflict (ok : Assemble.CtxOK c) (mok : MachineOK c fm m) :
    ((∃ t, machineToTable c m = .ok t) ∧ ¬ ∃ s e n, Genuine c m s e n) ∨
    (∃ s e n, machineToTable c m = .conflict s e n ∧ Genuine c m s e n) := by
  cases h : machineToTable c m with
  | ok t => exact Or.inl ⟨⟨t, rfl⟩, ok_conflict_free _ _ t h⟩
  | conflict s e n => exact Or.inr ⟨s, e, n, rfl, conflict_genuine _ _ s e n h⟩
  | panic site => exact absurd h (NoPanic.machineToTable_no_panic ok mok site)

end Machine
end KikiVerif
