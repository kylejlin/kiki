/-
The worklist of `UnnormalizedMachineBuilder` (`validated_ast_to_machine/mod.rs`): the invariant `BInv` of the state
table under `enqueue_state_if_needed` (new state, or LALR merge into the state with the same cores),
`enqueue_transition_target(s)` and the main loop.
-/
import KikiVerif.Proofs.Cores

namespace KikiVerif
namespace Machine
open LR (Sym Rule Grammar)

/-- `add_items_if_needed`: the union, still sorted; the flag is raised exactly when the set grows -/
theorem addItems_spec : ∀ (l : List Item) (st : Oset Item) (added : Bool), Oset.Sorted st.raw →
    Oset.Sorted (addItemsIfNeeded st l added).1.raw ∧
    (∀ y, y ∈ (addItemsIfNeeded st l added).1.raw ↔ y ∈ st.raw ∨ y ∈ l) ∧
    ((addItemsIfNeeded st l added).2 = false → added = false ∧ (addItemsIfNeeded st l added).1 = st) ∧
    st.raw.length ≤ (addItemsIfNeeded st l added).1.raw.length ∧
    ((addItemsIfNeeded st l added).2 = true → added = true ∨ st.raw.length < (addItemsIfNeeded st l added).1.raw.length)
  | [], st, added, hs => by simp [addItemsIfNeeded, hs]
  | it :: rest, st, added, hs => by
    simp only [addItemsIfNeeded]
    split
    · rename_i hc
      have hit := (Oset.contains_iff st it hs).mp hc
      obtain ⟨h1, h2, h3⟩ := addItems_spec rest st added hs
      refine ⟨h1, fun y => ?_, h3⟩
      rw [h2 y, List.mem_cons]
      exact ⟨fun h => h.imp_right Or.inr, fun h => h.elim Or.inl fun h => h.elim (fun e => Or.inl (e ▸ hit)) Or.inr⟩
    · rename_i hc
      obtain ⟨h1, h2, h3, h4, _⟩ := addItems_spec rest (st.insert it) true (Oset.insert_sorted st it hs)
      have hl := Oset.length_insert hs (by simpa using hc)
      refine ⟨h1, fun y => ?_, fun hf => absurd (h3 hf).1 (by simp), by omega, fun _ => Or.inr (by omega)⟩
      rw [h2 y, Oset.mem_insert st it y hs, List.mem_cons, or_comm (a := y = it), or_assoc]

theorem rhsOf_terminals {c : Ctx} (hwf : CtxWF c) (rule : Nat) : ∀ a, Sym.t a ∈ rhsOf c rule → a < c.nT := by
  intro a ha
  rcases mem_rhsOf ha with h | ⟨r, hr, h⟩
  · cases h
  · exact hwf r hr a h

theorem implied_dot {c : Ctx} {fm : List FirstSet} {x y : Item} {imp : List Item}
    (h : impliedItems c fm x = some imp) (hy : y ∈ imp) : y.dot = 0 ∧ y.rule < c.numRules := by
  obtain ⟨b, _, _, _, _, hr, hd⟩ := (mem_impliedItems h).mp hy
  obtain ⟨rule, hrule, _⟩ := mem_ruleIndicesFor.mp hr
  exact ⟨hd, (List.getElem?_eq_some_iff.mp hrule).1⟩

def WfItem (c : Ctx) (y : Item) : Prop :=
  y.rule ≤ c.numRules ∧ y.dot ≤ (rhsOf c y.rule).length ∧ y.la ≤ c.nT

theorem implied_wf {c : Ctx} {fm : List FirstSet} (hwf : CtxWF c) (hfb : FmBound c.nT fm) {x y : Item} {imp : List Item}
    (hx : WfItem c x) (h : impliedItems c fm x = some imp) (hy : y ∈ imp) : WfItem c y := by
  have hd := implied_dot h hy
  refine ⟨Nat.le_of_lt hd.2, by rw [hd.1]; exact Nat.zero_le _, ?_⟩
  obtain ⟨_, las, _, hlas, hla, _⟩ := (mem_impliedItems h).mp hy
  rcases las_bound hfb (fun a ha => rhsOf_terminals hwf x.rule a (List.mem_of_mem_drop ha)) hlas _ hla with h1 | h1
  · exact Nat.le_of_lt h1
  · exact h1 ▸ hx.2.2

theorem reach_wf {c : Ctx} {fm : List FirstSet} (hwf : CtxWF c) (hfb : FmBound c.nT fm) {K : List Item}
    (hK : ∀ x ∈ K, WfItem c x) {y : Item} (h : Reach c fm K y) : WfItem c y := by
  induction h with
  | kernel hk => exact hK _ hk
  | step _ himp hyi ih => exact implied_wf hwf hfb ih himp hyi

theorem transitionItems_wf {c : Ctx} {S : State} {X : Sym Nat Nat} (hS : ∀ x ∈ S, WfItem c x) :
    ∀ y ∈ transitionItems c S X, WfItem c y := by
  intro y hy
  obtain ⟨x, hx, hs, rfl⟩ := mem_transitionItems.mp hy
  have := (List.getElem?_eq_some_iff.mp hs).1
  exact ⟨(hS x hx).1, this, (hS x hx).2.2⟩

/-- the items (with their lookaheads) that the LALR(1) propagation rules generate over a given transition
graph: the augmented initial item in the start state, everything an item implies in its own state, and every
item moved along a transition -/
inductive Deriv (c : Ctx) (fm : List FirstSet) (start : Nat) (trans : List Transition) : Nat → Item → Prop
  | start : Deriv c fm start trans start ⟨c.numRules, c.nT, 0⟩
  | closure {s x y imp} : Deriv c fm start trans s x → impliedItems c fm x = some imp → y ∈ imp →
      Deriv c fm start trans s y
  | goto {s t x X} : Deriv c fm start trans s x → symRightOfDot c x = some X → (⟨s, t, X⟩ : Transition) ∈ trans →
      Deriv c fm start trans t { x with dot := x.dot + 1 }

theorem Deriv.mono {c : Ctx} {fm : List FirstSet} {start : Nat} {tr tr' : List Transition} (h : ∀ t ∈ tr, t ∈ tr')
    {s : Nat} {y : Item} (hd : Deriv c fm start tr s y) : Deriv c fm start tr' s y := by
  induction hd with
  | start => exact .start
  | closure _ hi hy ih => exact .closure ih hi hy
  | goto _ hs ht ih => exact .goto ih hs (h _ ht)

theorem Reach.deriv {c : Ctx} {fm : List FirstSet} {st : Nat} {tr : List Transition} {s : Nat} {K : List Item} {y : Item}
    (h : Reach c fm K y) (hK : ∀ x ∈ K, Deriv c fm st tr s x) : Deriv c fm st tr s y := by
  induction h with
  | kernel hk => exact hK _ hk
  | step _ himp hyi ih => exact .closure ih himp hyi

def startItem (c : Ctx) : Item := ⟨c.numRules, c.nT, 0⟩

/-- a state as `get_closure` leaves it -/
structure Good (c : Ctx) (fm : List FirstSet) (S : State) : Prop where
  sorted : Oset.Sorted S
  closed : Closed c fm S
  gen : ∀ y ∈ S, y.dot = 0 → y = startItem c ∨ ∃ x ∈ S, ∃ imp, impliedItems c fm x = some imp ∧ y ∈ imp
  wf : ∀ y ∈ S, WfItem c y
  total : ∀ x ∈ S, ∃ imp, impliedItems c fm x = some imp

/-- every kernel item of the target is an item of the source moved over `X` -/
def KernelOK (c : Ctx) (src tgt : State) (X : Sym Nat Nat) : Prop :=
  ∀ y ∈ tgt, 1 ≤ y.dot → ∃ x ∈ src, x.rule = y.rule ∧ x.dot + 1 = y.dot ∧ symRightOfDot c x = some X

structure TransOK (c : Ctx) (states : List State) (t : Transition) : Prop where
  frm : t.frm < states.length
  to : t.to < states.length
  ne0 : t.to ≠ 0
  kernel : KernelOK c (states.getD t.frm []) (states.getD t.to []) t.sym
  hasKernel : ∃ y ∈ states.getD t.to [], 1 ≤ y.dot

/-- the transition of state `i` on `X` exists and its target holds the moved items (same lookaheads) -/
def Done (c : Ctx) (states : List State) (trans : List Transition) (i : Nat) (X : Sym Nat Nat) : Prop :=
  ∃ j, (⟨i, j, X⟩ : Transition) ∈ trans ∧ ∀ y ∈ transitionItems c (states.getD i []) X, y ∈ states.getD j []

/-- the invariant of the worklist.  `E i X` exempts the transition of state `i` on `X` from `done`: while state `i` is
being processed its pending symbols are exempt (`Pending`); between two pops nothing is -/
structure BInv (c : Ctx) (fm : List FirstSet) (E : Nat → Sym Nat Nat → Prop) (b : Builder) : Prop where
  nonempty : 0 < b.states.length
  good : ∀ i, i < b.states.length → Good c fm (b.states.getD i [])
  queue : ∀ i ∈ b.queue, i < b.states.length
  trans : ∀ t ∈ b.transitions, TransOK c b.states t
  zero : ∀ y ∈ b.states.getD 0 [], y.dot = 0
  done : ∀ i, i < b.states.length → i ∉ b.queue → ∀ X, (∃ x ∈ b.states.getD i [], symRightOfDot c x = some X) →
    E i X ∨ Done c b.states b.transitions i X
  /-- no two states have the same core -/
  distinct : ∀ i j, i < b.states.length → j < b.states.length →
    SameCores (b.states.getD i []) (b.states.getD j []) → i = j
  /-- the cores of a transition's target are those generated from the moved cores of its source -/
  tcore : ∀ t ∈ b.transitions, ∀ q, (∃ y ∈ b.states.getD t.to [], coreOf y = q) ↔
    CReach c fm (fun p => ∃ x ∈ transitionItems c (b.states.getD t.frm []) t.sym, coreOf x = p) q
  /-- at most one transition per state and symbol -/
  func : ∀ t1 ∈ b.transitions, ∀ t2 ∈ b.transitions, t1.frm = t2.frm → t1.sym = t2.sym → t1.to = t2.to
  /-- the augmented initial item lives in state 0 only -/
  aug : ∀ i, i < b.states.length → i ≠ 0 → ∀ y ∈ b.states.getD i [], y.dot = 0 → y.rule < c.numRules
  hasStart : startItem c ∈ b.states.getD 0 []
  /-- the cores of state 0 are generated from the core of the augmented initial item -/
  zcore : ∀ y ∈ b.states.getD 0 [], CReach c fm (fun p => p = (c.numRules, 0)) (coreOf y)
  /-- no state is empty -/
  inhabited : ∀ i, i < b.states.length → ∃ y, y ∈ b.states.getD i []
  /-- every item of every state is generated by the LALR(1) propagation rules -/
  just : ∀ i, i < b.states.length → ∀ y ∈ b.states.getD i [], Deriv c fm 0 b.transitions i y

theorem CReach.kernel_of_dot {c : Ctx} {fm : List FirstSet} {KC : Core → Prop} {q : Core} (h : CReach c fm KC q)
    (hd : 1 ≤ q.2) : KC q := by
  cases h with
  | kernel hk => exact hk
  | step _ hi => obtain ⟨_, _, _, _, e⟩ := mem_impliedCores.mp hi; omega

/-- `TransOK.kernel` from `BInv.tcore` -/
theorem kernelOK_of_tcore {c : Ctx} {fm : List FirstSet} {src tgt : State} {X : Sym Nat Nat}
    (h : ∀ y ∈ tgt, CReach c fm (fun p => ∃ x ∈ transitionItems c src X, coreOf x = p) (coreOf y)) :
    KernelOK c src tgt X := by
  intro y hy hd
  obtain ⟨x', hx', e⟩ := (h y hy).kernel_of_dot hd
  obtain ⟨x, hx, hs, rfl⟩ := mem_transitionItems.mp hx'
  simp only [coreOf, Prod.mk.injEq] at e
  exact ⟨x, hx, e.1, e.2, hs⟩

/-- `BInv.aug` from `BInv.just`: only the start rule puts the augmented item, undotted, into a state -/
theorem Deriv.aug {c : Ctx} {fm : List FirstSet} {st : Nat} {tr : List Transition} {i : Nat} {y : Item}
    (h : Deriv c fm st tr i y) (hi : i ≠ st) (hd : y.dot = 0) : y.rule < c.numRules := by
  cases h with
  | start => exact absurd rfl hi
  | closure _ himp hy => exact (implied_dot himp hy).2
  | goto _ _ _ => simp at hd

/-- what `enqueue_state_if_needed b tgt` returns: the builder `b'` and the index `j` of the state that now holds `tgt` -/
structure StepSpec (c : Ctx) (fm : List FirstSet) (b : Builder) (tgt : State) (b' : Builder) (j : Nat) : Prop where
  len : b.states.length ≤ b'.states.length
  jlt : j < b'.states.length
  jne : j ≠ 0
  sub : ∀ y ∈ tgt, y ∈ b'.states.getD j []
  coreJ : ∀ y ∈ b'.states.getD j [], ∃ y0 ∈ tgt, y.rule = y0.rule ∧ y.dot = y0.dot
  mono : ∀ i, i < b.states.length → ∀ y ∈ b.states.getD i [], y ∈ b'.states.getD i []
  cores : ∀ i, i < b.states.length → ∀ y ∈ b'.states.getD i [], ∃ y0 ∈ b.states.getD i [], y.rule = y0.rule ∧ y.dot = y0.dot
  same : ∀ i, i < b.states.length → b'.states.getD i [] = b.states.getD i [] ∨ (i = j ∧ j ∈ b'.queue)
  fresh : ∀ i, b.states.length ≤ i → i < b'.states.length → i ∈ b'.queue
  good : ∀ i, i < b'.states.length → Good c fm (b'.states.getD i [])
  queueSub : ∀ i ∈ b.queue, i ∈ b'.queue
  queueLt : ∀ i ∈ b'.queue, i < b'.states.length
  transEq : b'.transitions = b.transitions
  pick : ∀ k, k < b.states.length → SameCores tgt (b.states.getD k []) → k = j
  distinct : ∀ i k, i < b'.states.length → k < b'.states.length →
    SameCores (b'.states.getD i []) (b'.states.getD k []) → i = k
  lenCases : b'.states.length = b.states.length ∨ (b'.states.length = b.states.length + 1 ∧ j = b.states.length)
  memJ : ∀ k, k < b'.states.length → ∀ y ∈ b'.states.getD k [],
    (k < b.states.length ∧ y ∈ b.states.getD k []) ∨ (k = j ∧ y ∈ tgt)

theorem StepSpec.sameCores {c : Ctx} {fm : List FirstSet} {b b' : Builder} {tgt : State} {j : Nat}
    (sp : StepSpec c fm b tgt b' j) {i : Nat} (hi : i < b.states.length) :
    SameCores (b'.states.getD i []) (b.states.getD i []) :=
  sameCores_iff.mpr ⟨sp.cores i hi, .of_subset (sp.mono i hi)⟩

theorem StepSpec.sameJ {c : Ctx} {fm : List FirstSet} {b b' : Builder} {tgt : State} {j : Nat}
    (sp : StepSpec c fm b tgt b' j) : SameCores (b'.states.getD j []) tgt :=
  sameCores_iff.mpr ⟨sp.coreJ, .of_subset sp.sub⟩

theorem good_union {c : Ctx} {fm : List FirstSet} {A B U : State} (hA : Good c fm A) (hB : Good c fm B)
    (hs : Oset.Sorted U) (hm : ∀ y, y ∈ U ↔ y ∈ A ∨ y ∈ B) : Good c fm U := by
  refine ⟨hs, ?_, ?_, fun y hy => ((hm y).mp hy).elim (hA.wf y) (hB.wf y),
    fun y hy => ((hm y).mp hy).elim (hA.total y) (hB.total y)⟩
  · intro x hx imp himp y hy
    rcases (hm x).mp hx with h | h
    · exact (hm y).mpr (Or.inl (hA.closed x h imp himp y hy))
    · exact (hm y).mpr (Or.inr (hB.closed x h imp himp y hy))
  · intro y hy hd
    rcases (hm y).mp hy with h | h
    · rcases hA.gen y h hd with e | ⟨x, hx, imp, hi, hyi⟩
      · exact Or.inl e
      · exact Or.inr ⟨x, (hm x).mpr (Or.inl hx), imp, hi, hyi⟩
    · rcases hB.gen y h hd with e | ⟨x, hx, imp, hi, hyi⟩
      · exact Or.inl e
      · exact Or.inr ⟨x, (hm x).mpr (Or.inr hx), imp, hi, hyi⟩

theorem enqueueState_spec {c : Ctx} {fm : List FirstSet} {E : Nat → Sym Nat Nat → Prop} {b : Builder} {tgt : State}
    (inv : BInv c fm E b) (hg : Good c fm tgt) (hk : ∃ y ∈ tgt, 1 ≤ y.dot) :
    StepSpec c fm b tgt (enqueueStateIfNeeded b tgt).1 (enqueueStateIfNeeded b tgt).2 := by
  unfold enqueueStateIfNeeded
  split
  · -- merge into state `i`
    rename_i i hidx
    obtain ⟨hi, hp, _⟩ := List.findIdx?_eq_some_iff_getElem.mp hidx
    rw [← List.getD_of_lt (d := []) hi] at hp
    have hsame : SameCores tgt (b.states.getD i []) := areCoresEqual_iff_same.mp hp
    obtain ⟨hc1, hc2⟩ := sameCores_iff.mp hsame
    have hgi := inv.good i hi
    obtain ⟨a1, a2, a3, _⟩ := addItems_spec tgt ⟨b.states.getD i []⟩ false hgi.sorted
    simp only at a1 a2 a3 ⊢
    generalize addItemsIfNeeded ⟨b.states.getD i []⟩ tgt false = res at a1 a2 a3
    obtain ⟨new, added⟩ := res
    simp only at a1 a2 a3 ⊢
    have hlen : (b.states.set i new.raw).length = b.states.length := by simp
    -- the new table, state by state: `k = i` or not is distinguished here and in `same` and `good` only
    have other : ∀ k, k ≠ i → (b.states.set i new.raw).getD k [] = b.states.getD k [] :=
      fun k e => List.getD_set_ne (Ne.symm e)
    have mem : ∀ k y, y ∈ (b.states.set i new.raw).getD k [] ↔ y ∈ b.states.getD k [] ∨ (k = i ∧ y ∈ tgt) := by
      intro k y
      by_cases e : k = i
      · rw [e, List.getD_set_self hi, a2]; simp
      · rw [other k e]; simp [e]
    have mono : ∀ k y, y ∈ b.states.getD k [] → y ∈ (b.states.set i new.raw).getD k [] :=
      fun k y hy => (mem k y).mpr (Or.inl hy)
    have cores : ∀ k, k < b.states.length → CoreSub ((b.states.set i new.raw).getD k []) (b.states.getD k []) :=
      fun k _ y hy => ((mem k y).mp hy).elim (fun h => ⟨y, h, rfl, rfl⟩) fun ⟨e, h⟩ => e ▸ hc1 y h
    exact
      { len := Nat.le_of_eq hlen.symm
        jlt := hlen ▸ hi
        jne := by
          rintro rfl
          obtain ⟨y, hy, hd⟩ := hk
          obtain ⟨y', hy', _, hdd⟩ := hc1 y hy
          have := inv.zero y' hy'
          omega
        sub := fun y hy => (mem i y).mpr (Or.inr ⟨rfl, hy⟩)
        coreJ := fun y hy => ((mem i y).mp hy).elim (hc2 y) fun h => ⟨y, h.2, rfl, rfl⟩
        mono := fun k _ => mono k
        cores := cores
        same := by
          intro k _
          by_cases e : k = i
          · subst e
            cases added with
            | false => exact Or.inl (by rw [List.getD_set_self hi, (a3 rfl).2])
            | true => exact Or.inr ⟨rfl, by simp⟩
          · exact Or.inl (other k e)
        fresh := fun k h1 h2 => absurd (hlen ▸ h2) (Nat.not_lt.mpr h1)
        good := by
          intro k hk'
          by_cases e : k = i
          · rw [e, List.getD_set_self hi]; exact good_union hgi hg a1 a2
          · rw [other k e]; exact inv.good k (hlen ▸ hk')
        queueSub := by
          intro k hk'
          split
          · exact List.mem_append_left _ hk'
          · exact hk'
        queueLt := by
          intro k hk'
          rw [hlen]
          split at hk'
          · rcases List.mem_append.mp hk' with h | h
            · exact inv.queue k h
            · exact List.mem_singleton.mp h ▸ hi
          · exact inv.queue k hk'
        transEq := rfl
        lenCases := Or.inl hlen
        memJ := fun k hk' y hy => ((mem k y).mp hy).imp_left fun h => ⟨hlen ▸ hk', h⟩
        pick := fun k hk' hs => inv.distinct k i hk' hi (hs.symm.trans hsame)
        distinct := by
          -- every state keeps its cores
          have sc := fun k hk' => sameCores_iff.mpr ⟨cores k hk', CoreSub.of_subset (mono k)⟩
          intro k1 k2 h1 h2 hs
          rw [hlen] at h1 h2
          exact inv.distinct k1 k2 h1 h2 ((sc k1 h1).symm.trans (hs.trans (sc k2 h2))) }
  · -- a new state
    rename_i hidx
    simp only
    have hlen : (b.states ++ [tgt]).length = b.states.length + 1 := by simp
    have noeq : ∀ k, k < b.states.length → ¬ SameCores tgt (b.states.getD k []) := by
      intro k hk' hs
      have := List.findIdx?_eq_none_iff.mp hidx (b.states.getD k []) (by rw [List.getD_of_lt hk']; exact List.getElem_mem hk')
      rw [areCoresEqual_iff_same.mpr hs] at this
      cases this
    have old : ∀ k, k < b.states.length → (b.states ++ [tgt]).getD k [] = b.states.getD k [] :=
      fun k hk' => List.getD_append_lt hk'
    have last : (b.states ++ [tgt]).getD b.states.length [] = tgt := List.getD_append_len
    have cases : ∀ k, k < (b.states ++ [tgt]).length → k < b.states.length ∨ k = b.states.length :=
      fun k hk' => by rw [hlen] at hk'; omega
    exact
      { len := by rw [hlen]; omega
        jlt := by rw [hlen]; omega
        jne := by have := inv.nonempty; omega
        sub := fun y hy => by rw [last]; exact hy
        coreJ := fun y hy => ⟨y, by rw [last] at hy; exact hy, rfl, rfl⟩
        mono := fun k hk' y hy => by rw [old k hk']; exact hy
        cores := fun k hk' y hy => ⟨y, by rw [old k hk'] at hy; exact hy, rfl, rfl⟩
        same := fun k hk' => Or.inl (old k hk')
        fresh := fun k h1 h2 => by
          obtain rfl : k = b.states.length := (cases k h2).resolve_left (Nat.not_lt.mpr h1)
          simp
        good := by
          intro k hk'
          rcases cases k hk' with e | rfl
          · rw [old k e]; exact inv.good k e
          · rw [last]; exact hg
        queueSub := fun k hk' => List.mem_append_left _ hk'
        queueLt := by
          intro k hk'
          rw [hlen]
          rcases List.mem_append.mp hk' with h | h
          · have := inv.queue k h; omega
          · simp at h; omega
        transEq := rfl
        lenCases := Or.inr ⟨hlen, rfl⟩
        memJ := by
          intro k hk' y hy
          rcases cases k hk' with e | rfl
          · exact Or.inl ⟨e, by rw [old k e] at hy; exact hy⟩
          · exact Or.inr ⟨rfl, by rw [last] at hy; exact hy⟩
        pick := fun k hk' hs => absurd hs (noeq k hk')
        distinct := by
          -- the cores of the new state are those of `tgt`, which no old state has
          have one : ∀ k1 k2, k1 < b.states.length → k2 < (b.states ++ [tgt]).length →
              SameCores ((b.states ++ [tgt]).getD k1 []) ((b.states ++ [tgt]).getD k2 []) → k1 = k2 := by
            intro k1 k2 e1 h2 hs
            rw [old k1 e1] at hs
            rcases cases k2 h2 with e2 | rfl
            · exact inv.distinct k1 k2 e1 e2 (by rw [old k2 e2] at hs; exact hs)
            · exact absurd (by rw [last] at hs; exact hs.symm) (noeq k1 e1)
          intro k1 k2 h1 h2 hs
          rcases cases k1 h1 with e1 | rfl
          · exact one k1 k2 e1 h2 hs
          · rcases cases k2 h2 with e2 | rfl
            · exact (one k2 _ e2 h1 hs.symm).symm
            · rfl }

theorem insertTransition_mem {ts : List Transition} {t u : Transition} :
    u ∈ insertTransition ts t ↔ u ∈ ts ∨ u = t := by
  unfold insertTransition
  split
  · rename_i hc
    exact ⟨Or.inl, fun h => h.elim id (· ▸ List.contains_iff_mem.mp hc)⟩
  · simp

theorem good_of_closure {c : Ctx} {fm : List FirstSet} (hwf : CtxWF c) (hfb : FmBound c.nT fm)
    {src : State} {X : Sym Nat Nat} {fuel : Nat} {tgt : State}
    (h : closureLoop c fm fuel (transitionItems c src X) Oset.new = some (some tgt))
    (hX : ∃ x ∈ src, symRightOfDot c x = some X) (hsrc : ∀ x ∈ src, WfItem c x) :
    Good c fm tgt ∧ (∃ y ∈ tgt, 1 ≤ y.dot) ∧ (∀ y ∈ transitionItems c src X, y ∈ tgt) ∧
      (∀ q, (∃ y ∈ tgt, coreOf y = q) ↔ CReach c fm (fun p => ∃ x ∈ transitionItems c src X, coreOf x = p) q) ∧
      (∀ y ∈ tgt, Reach c fm (transitionItems c src X) y) := by
  obtain ⟨h1, h2, h3, h4, h5, h6⟩ := closure_spec h
  refine ⟨⟨h1, h3, ?_, fun y hy => reach_wf hwf hfb (transitionItems_wf hsrc) (h4 y hy), h6⟩, ?_, h2,
    closure_cores h2 h3 h4 h6, h4⟩
  · intro y hy hd
    refine (h5 y hy).imp_left fun hk => ?_
    obtain ⟨x, _, _, rfl⟩ := mem_transitionItems.mp hk
    simp at hd
  · obtain ⟨x, hx, hs⟩ := hX
    exact ⟨_, h2 _ (mem_transitionItems.mpr ⟨x, hx, hs, rfl⟩), by simp⟩

theorem enqueueTarget_spec {c : Ctx} {fm : List FirstSet} (hwf : CtxWF c) (hfb : FmBound c.nT fm)
    {E E' : Nat → Sym Nat Nat → Prop} {b b' : Builder}
    {fuel i : Nat} {X : Sym Nat Nat} (inv : BInv c fm E b) (hi : i < b.states.length)
    (hX : ∃ x ∈ b.states.getD i [], symRightOfDot c x = some X)
    (h : enqueueTransitionTarget c fm fuel b i X = some (some b'))
    (hE : ∀ i' X', E i' X' → E' i' X' ∨ (i' = i ∧ X' = X)) :
    BInv c fm E' b' ∧ b.states.length ≤ b'.states.length ∧
      (∀ k, k < b.states.length → ∀ y ∈ b.states.getD k [], y ∈ b'.states.getD k []) := by
  unfold enqueueTransitionTarget at h
  simp only at h
  split at h
  · cases h
  · cases h
  · rename_i tgt hcl
    obtain ⟨hg, hk, hsubK, hcores, hreach⟩ := good_of_closure hwf hfb hcl hX (inv.good i hi).wf
    have sp := enqueueState_spec inv hg hk
    generalize hres : enqueueStateIfNeeded b tgt = res at h sp
    obtain ⟨b1, j⟩ := res
    simp only at h sp
    cases h
    refine ⟨?_, sp.len, sp.mono⟩
    have hlen : i < b1.states.length := Nat.lt_of_lt_of_le hi sp.len
    have hsubT : ∀ t ∈ b.transitions, t ∈ insertTransition b1.transitions ⟨i, j, X⟩ := fun t ht =>
      insertTransition_mem.mpr (Or.inl (sp.transEq ▸ ht))
    have htcore : ∀ t ∈ insertTransition b1.transitions ⟨i, j, X⟩, ∀ q, (∃ y ∈ b1.states.getD t.to [], coreOf y = q) ↔
        CReach c fm (fun p => ∃ x ∈ transitionItems c (b1.states.getD t.frm []) t.sym, coreOf x = p) q := by
      intro t ht q
      rcases insertTransition_mem.mp ht with ht | rfl
      · rw [sp.transEq] at ht
        have old := inv.trans t ht
        rw [sp.sameCores old.to q, inv.tcore t ht q]
        exact (creach_iff (transitionItems_cores t.sym (sp.sameCores old.frm)) q).symm
      · simp only
        rw [sp.sameJ q, hcores q]
        exact (creach_iff (transitionItems_cores X (sp.sameCores hi)) q).symm
    have htrans : ∀ t ∈ insertTransition b1.transitions ⟨i, j, X⟩, TransOK c b1.states t := by
      intro t ht
      have hker := kernelOK_of_tcore fun y hy => (htcore t ht _).mp ⟨y, hy, rfl⟩
      rcases insertTransition_mem.mp ht with ht | rfl
      · have old := inv.trans t (sp.transEq ▸ ht)
        exact ⟨Nat.lt_of_lt_of_le old.frm sp.len, Nat.lt_of_lt_of_le old.to sp.len, old.ne0, hker,
          (let ⟨y, hy, hd⟩ := old.hasKernel; ⟨y, sp.mono t.to old.to y hy, hd⟩)⟩
      · exact ⟨hlen, sp.jlt, sp.jne, hker, (let ⟨y, hy, hd⟩ := hk; ⟨y, sp.sub y hy, hd⟩)⟩
    have hjust : ∀ k, k < b1.states.length → ∀ y ∈ b1.states.getD k [],
        Deriv c fm 0 (insertTransition b1.transitions ⟨i, j, X⟩) k y := by
      intro k hk' y hy
      rcases sp.memJ k hk' y hy with ⟨hlt, hold⟩ | ⟨rfl, htgt⟩
      · exact (inv.just k hlt y hold).mono hsubT
      · refine (hreach y htgt).deriv fun x hK => ?_
        obtain ⟨x, hx, hs, rfl⟩ := mem_transitionItems.mp hK
        exact .goto ((inv.just i hi x hx).mono hsubT) hs (insertTransition_mem.mpr (Or.inr rfl))
    have hzero : b1.states.getD 0 [] = b.states.getD 0 [] :=
      (sp.same 0 inv.nonempty).resolve_right fun e => sp.jne e.1.symm
    exact
      { nonempty := Nat.lt_of_lt_of_le inv.nonempty sp.len
        good := sp.good
        queue := sp.queueLt
        trans := htrans
        zero := hzero ▸ inv.zero
        distinct := sp.distinct
        tcore := htcore
        -- two transitions from one state on one symbol lead to states with the same cores
        func := fun t1 ht1 t2 ht2 e1 e2 => sp.distinct _ _ (htrans t1 ht1).to (htrans t2 ht2).to fun q => by
          rw [htcore t1 ht1 q, htcore t2 ht2 q, e1, e2]
        aug := fun k hk' hk0 y hy hd => (hjust k hk' y hy).aug hk0 hd
        hasStart := sp.mono 0 inv.nonempty _ inv.hasStart
        zcore := hzero ▸ inv.zcore
        inhabited := by
          intro k hk'
          by_cases hlt : k < b.states.length
          · obtain ⟨y, hy⟩ := inv.inhabited k hlt
            exact ⟨y, sp.mono k hlt y hy⟩
          · obtain ⟨y, hy, _⟩ := hk
            obtain rfl : k = j := by have := sp.lenCases; have : k < b1.states.length := hk'; omega
            exact ⟨y, sp.sub y hy⟩
        just := hjust
        -- an old state is unchanged (its transition is the new one, an old one, or still exempt) or was merged into
        -- and queued again; a fresh state is queued
        done := by
          intro i' hi' hq X' hX'
          by_cases hlt : i' < b.states.length
          · rcases sp.same i' hlt with e | ⟨hij, hjq⟩
            · rw [e] at hX'
              rcases inv.done i' hlt (fun hm => hq (sp.queueSub i' hm)) X' hX' with hE0 | ⟨j', hj', hsub⟩
              · rcases hE i' X' hE0 with h1 | ⟨rfl, rfl⟩
                · exact Or.inl h1
                · exact Or.inr ⟨j, insertTransition_mem.mpr (Or.inr rfl), fun y hy => sp.sub y (hsubK y (e ▸ hy))⟩
              · exact Or.inr ⟨j', hsubT _ hj', fun y hy => sp.mono j' (inv.trans _ hj').to y (hsub y (e ▸ hy))⟩
            · exact absurd (hij ▸ hjq) hq
          · exact absurd (sp.fresh i' (by omega) hi') hq }

/-- the invariant while state `i` is being processed: its symbols `ks` are still pending (and occur right of a
dot in it), every other symbol of a state outside the queue is done or exempted by `E0` -/
def Pending (c : Ctx) (fm : List FirstSet) (E0 : Nat → Sym Nat Nat → Prop) (i : Nat) (ks : List Nat) (b : Builder) : Prop :=
  BInv c fm (fun i' X' => E0 i' X' ∨ (i' = i ∧ ∃ k ∈ ks, X' = keySym c k)) b ∧ i < b.states.length ∧
    ∀ k ∈ ks, ∃ x ∈ b.states.getD i [], symRightOfDot c x = some (keySym c k)

theorem Pending.step {c : Ctx} {fm : List FirstSet} (hwf : CtxWF c) (hfb : FmBound c.nT fm)
    {E0 : Nat → Sym Nat Nat → Prop} {fuel i k : Nat} {ks : List Nat} {b b' : Builder} (h : Pending c fm E0 i (k :: ks) b)
    (hstep : enqueueTransitionTarget c fm fuel b i (keySym c k) = some (some b')) : Pending c fm E0 i ks b' := by
  obtain ⟨inv, hi, hks⟩ := h
  obtain ⟨inv1, hlen, hmono⟩ := enqueueTarget_spec hwf hfb
    (E' := fun i' X' => E0 i' X' ∨ (i' = i ∧ ∃ k ∈ ks, X' = keySym c k)) inv hi (hks k List.mem_cons_self) hstep (by
      rintro i' X' (h | ⟨rfl, k', hk', rfl⟩)
      · exact Or.inl (Or.inl h)
      · rcases List.mem_cons.mp hk' with rfl | hk'
        · exact Or.inr ⟨rfl, rfl⟩
        · exact Or.inl (Or.inr ⟨rfl, k', hk', rfl⟩))
  refine ⟨inv1, Nat.lt_of_lt_of_le hi hlen, fun k' hk' => ?_⟩
  obtain ⟨x, hx, hs⟩ := hks k' (List.mem_cons_of_mem _ hk')
  exact ⟨x, hmono i hi x hx, hs⟩

theorem Pending.done {c : Ctx} {fm : List FirstSet} {E0 : Nat → Sym Nat Nat → Prop} {i : Nat} {b : Builder}
    (h : Pending c fm E0 i [] b) : BInv c fm E0 b :=
  { h.1 with
    done := fun i' hi' hq X' hX' => (h.1.done i' hi' hq X' hX').imp_left fun h => h.resolve_right (by simp) }

theorem enqueueTargets_spec {c : Ctx} {fm : List FirstSet} (hwf : CtxWF c) (hfb : FmBound c.nT fm)
    {E0 : Nat → Sym Nat Nat → Prop} {fuel i : Nat} {ks : List Nat} {b b' : Builder} (hp : Pending c fm E0 i ks b)
    (h : enqueueTargets c fm fuel i ks b = some (some b')) : BInv c fm E0 b' := by
  fun_induction enqueueTargets c fm fuel i ks b with
  | case1 => cases h; exact hp.done
  | case2 | case3 => cases h
  | case4 k ks b b1 hstep ih => exact ih (hp.step hwf hfb hstep) h

theorem keySym_symKey {c : Ctx} (hwf : CtxWF c) {x : Item} {X : Sym Nat Nat} (h : symRightOfDot c x = some X) :
    keySym c (symKey c X) = X := by
  cases X with
  | n b => simp [symKey, keySym]
  | t a => simp [symKey, keySym, rhsOf_terminals hwf x.rule a (List.mem_of_getElem? h)]

theorem mem_symbolsRightOfDot {c : Ctx} {S : State} {k : Nat} :
    k ∈ symbolsRightOfDot c S ↔ ∃ x ∈ S, ∃ X, symRightOfDot c x = some X ∧ k = symKey c X := by
  simp only [symbolsRightOfDot, Oset.mem_ofList, List.mem_filterMap, Option.map_eq_some_iff]
  exact exists_congr fun x => and_congr_right fun _ => exists_congr fun X => and_congr_right fun _ => eq_comm

theorem BInv.pop {c : Ctx} {fm : List FirstSet} (hwf : CtxWF c) {states : List State} {trans : List Transition}
    {i : Nat} {q : List Nat} (inv : BInv c fm (fun _ _ => False) ⟨states, trans, i :: q⟩) :
    Pending c fm (fun _ _ => False) i (symbolsRightOfDot c (states.getD i [])) ⟨states, trans, q⟩ := by
  refine ⟨{ inv with queue := fun k hk => inv.queue k (List.mem_cons_of_mem _ hk), done := ?_ },
    inv.queue i List.mem_cons_self, fun k hk => ?_⟩
  · intro i' hi' hq X' hX'
    by_cases e : i' = i
    · subst e
      obtain ⟨x, hx, hs⟩ := hX'
      exact Or.inl (Or.inr ⟨rfl, symKey c X', mem_symbolsRightOfDot.mpr ⟨x, hx, X', hs, rfl⟩,
        (keySym_symKey hwf hs).symm⟩)
    · exact (inv.done i' hi' (by simpa [e] using hq) X' hX').imp_left False.elim
  · obtain ⟨x, hx, X, hs, rfl⟩ := mem_symbolsRightOfDot.mp hk
    exact ⟨x, hx, by rw [keySym_symKey hwf hs]; exact hs⟩

theorem buildLoop_spec {c : Ctx} {fm : List FirstSet} (hwf : CtxWF c) (hfb : FmBound c.nT fm) {cf : Nat} :
    ∀ (fuel : Nat) (b b' : Builder), BInv c fm (fun _ _ => False) b →
      buildLoop c fm cf fuel b = some (some b') → BInv c fm (fun _ _ => False) b' ∧ b'.queue = [] := by
  intro fuel b b' inv h
  fun_induction buildLoop c fm cf fuel b with
  | case1 => cases h
  | case2 => cases h; exact ⟨inv, rfl⟩
  | case3 | case4 => cases h
  | case5 fuel states trans i q b b1 hstep ih =>
    exact ih (enqueueTargets_spec hwf hfb (inv.pop hwf) hstep) h

/-- the builder `validated_ast_to_machine` starts from -/
theorem initial_inv {c : Ctx} {fm : List FirstSet} (hwf : CtxWF c) (hfb : FmBound c.nT fm) {fuel : Nat} {start : State}
    (h : closureLoop c fm fuel [startItem c] Oset.new = some (some start)) :
    BInv c fm (fun _ _ => False) ⟨[start], [], [0]⟩ := by
  obtain ⟨h1, h2, h3, h4, h5, h6⟩ := closure_spec h
  have hstart : startItem c ∈ start := h2 _ (List.mem_singleton.mpr rfl)
  have one : ∀ {i}, i < [start].length → i = 0 := fun hi => by simpa using hi
  exact
    { nonempty := by simp
      good := fun i hi => by
        cases one hi
        exact ⟨h1, h3, fun y hy _ => (h5 y hy).imp_left (by simp),
          fun y hy => reach_wf hwf hfb (by simp [WfItem, startItem]) (h4 y hy), h6⟩
      queue := by simp
      trans := nofun
      zero := by
        intro y hy
        rcases h5 y hy with hk | ⟨x, _, imp, hi, hyi⟩
        · rw [List.mem_singleton.mp hk]; rfl
        · exact (implied_dot hi hyi).1
      done := fun i hi hq => by cases one hi; simp at hq
      distinct := fun i j hi hj _ => (one hi).trans (one hj).symm
      tcore := nofun
      func := nofun
      aug := fun i hi h0 => absurd (one hi) h0
      hasStart := hstart
      zcore := by
        intro y hy
        refine CReach.mono ?_ ((closure_cores h2 h3 h4 h6 (coreOf y)).mp ⟨y, hy, rfl⟩)
        rintro p ⟨x, hx, rfl⟩
        rw [List.mem_singleton.mp hx]; rfl
      inhabited := fun i hi => by cases one hi; exact ⟨startItem c, hstart⟩
      just := fun i hi y hy => by
        cases one hi
        exact (h4 y hy).deriv fun x hx => List.mem_singleton.mp hx ▸ .start }

end Machine
end KikiVerif
