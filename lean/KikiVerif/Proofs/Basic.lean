/-
Facts about `List`, `Option` and `Nat` that do not mention the model and that core Lean does not have under
some name: `getD`, `mapM` into `Option` (characterised by `map`: `List.mapM_eq_some`), `lookup` and distinct keys,
counting in duplicate-free lists, sums and `foldl max`, and the flat index `row * width + column`.
-/

namespace List
variable {α β : Type}

/-! ### `getD` -/

theorem getD_set_self {l : List α} {i : Nat} {a d : α} (h : i < l.length) : (l.set i a).getD i d = a := by
  simp [getD_eq_getElem?_getD, h]

theorem getD_set_ne {l : List α} {i k : Nat} {a d : α} (h : i ≠ k) : (l.set i a).getD k d = l.getD k d := by
  simp [getD_eq_getElem?_getD, h]

theorem getD_append_lt {l m : List α} {k : Nat} {d : α} (h : k < l.length) : (l ++ m).getD k d = l.getD k d := by
  simp [getD_eq_getElem?_getD, getElem?_append_left h]

theorem getD_append_len {l : List α} {a d : α} : (l ++ [a]).getD l.length d = a := by
  simp [getD_eq_getElem?_getD]

theorem getD_of_lt {l : List α} {k : Nat} {d : α} (h : k < l.length) : l.getD k d = l[k] := by
  simp [getD_eq_getElem?_getD, h]

theorem getD_of_le {l : List α} {k : Nat} {d : α} (h : l.length ≤ k) : l.getD k d = d := by
  simp [getD_eq_getElem?_getD, h]

theorem lt_length_of_mem_getD_nil {l : List (List α)} {k : Nat} {x : α} (h : x ∈ l.getD k []) : k < l.length :=
  Nat.lt_of_not_le fun hk => by rw [getD_of_le hk] at h; cases h

theorem getElem?_eq_some_getD {l : List α} {k : Nat} (h : k < l.length) (d : α) : l[k]? = some (l.getD k d) := by
  simp [getD_eq_getElem?_getD, h]

/-! ### `mapM` into `Option` -/

theorem mapM_eq_some {f : α → Option β} {l : List α} {r : List β} :
    l.mapM f = some r ↔ l.map f = r.map some := by
  induction l generalizing r with
  | nil => cases r <;> simp
  | cons x l ih =>
    rw [mapM_cons]
    cases r with
    | nil => cases f x <;> cases l.mapM f <;> simp
    | cons z r =>
      rw [map_cons, map_cons, cons.injEq, ← ih]
      cases f x <;> cases l.mapM f <;> simp

theorem length_of_mapM_eq_some {f : α → Option β} {l : List α} {r : List β} (h : l.mapM f = some r) :
    r.length = l.length := by
  simpa using (congrArg length (mapM_eq_some.mp h)).symm

theorem getElem?_of_mapM_eq_some {f : α → Option β} {l : List α} {r : List β} (h : l.mapM f = some r) {k : Nat}
    {x : α} (hk : l[k]? = some x) : ∃ y, r[k]? = some y ∧ f x = some y := by
  have := congrArg (·[k]?) (mapM_eq_some.mp h)
  simp only [getElem?_map, hk, Option.map_some] at this
  cases hr : r[k]? <;> simp_all

theorem getElem?_eq_of_mapM_eq_some {f : α → Option β} {l : List α} {r : List β} (h : l.mapM f = some r) {k : Nat}
    {x : α} {y : β} (hx : l[k]? = some x) (hy : r[k]? = some y) : f x = some y := by
  obtain ⟨y', e, h'⟩ := getElem?_of_mapM_eq_some h hx
  cases hy.symm.trans e
  exact h'

theorem map_of_mapM_eq_some {γ : Type} {f : α → Option β} {φ : β → γ} {ψ : α → γ} {l : List α} {r : List β}
    (h : l.mapM f = some r) (hf : ∀ x ∈ l, ∀ y, f x = some y → φ y = ψ x) : r.map φ = l.map ψ := by
  replace h := mapM_eq_some.mp h
  induction l generalizing r with
  | nil => cases r <;> simp_all
  | cons a l ih =>
    cases r with
    | nil => simp at h
    | cons c r =>
      simp only [map_cons, cons.injEq] at h
      rw [map_cons, map_cons, hf a mem_cons_self c h.1, ih (fun x hx => hf x (mem_cons_of_mem _ hx)) h.2]

theorem isSome_mapM {f : α → Option β} : ∀ {l : List α}, (l.mapM f).isSome ↔ ∀ x ∈ l, (f x).isSome
  | [] => by simp
  | a :: l => by
    rw [mapM_cons, forall_mem_cons, ← isSome_mapM]
    cases f a <;> cases l.mapM f <;> simp

/-! ### `lookup` -/

section lookup
variable [BEq α] [LawfulBEq α] {l : List (α × β)} {k : α} {v : β}

theorem mem_of_lookup_eq_some (h : l.lookup k = some v) : (k, v) ∈ l := by
  obtain ⟨pre, post, rfl, -⟩ := lookup_eq_some_iff.mp h
  simp

theorem not_mem_keys_of_lookup_eq_none (h : l.lookup k = none) : k ∉ l.map (·.1) := by
  rw [lookup_eq_none_iff] at h
  rintro hm
  obtain ⟨p, hp, rfl⟩ := mem_map.mp hm
  simpa using h p hp

end lookup

theorem eq_of_nodup_keys {l : List (α × β)} (h : (l.map (·.1)).Nodup) :
    ∀ ⦃x⦄, x ∈ l → ∀ ⦃y⦄, y ∈ l → x.1 = y.1 → x = y :=
  have hp := pairwise_map.mp h
  hp.imp (fun hne e => absurd e hne) |>.forall_of_forall_of_flip (fun _ _ _ => rfl)
    (hp.imp fun hne e => absurd e.symm hne)

theorem Nodup.append_singleton {l : List α} {x : α} (h : l.Nodup) (hx : x ∉ l) : (l ++ [x]).Nodup := by
  simpa [nodup_append, h] using fun a ha (e : a = x) => hx (e ▸ ha)

theorem map_zipIdx_fst (g : α → β) (l : List α) (k : Nat) : (l.zipIdx k).map (fun p => g p.1) = l.map g :=
  (map_map (f := Prod.fst) (g := g)).symm.trans (congrArg _ (zipIdx_map_fst ..))

theorem two_le_length {l : List α} (h0 : l ≠ []) (h1 : ∀ a, l ≠ [a]) : 2 ≤ l.length :=
  match l with
  | [] => absurd rfl h0
  | [a] => absurd rfl (h1 a)
  | _ :: _ :: _ => by simp

/-! ### counting -/

theorem Nodup.length_le_of_lt {l : List Nat} {n : Nat} (hd : l.Nodup) (h : ∀ x ∈ l, x < n) : l.length ≤ n := by
  simpa using hd.length_le_of_subset fun x hx => mem_range.mpr (h x hx)

theorem Nodup.subset_of_length_le [DecidableEq α] {a b : List α} (hd : a.Nodup) (hs : a ⊆ b)
    (hl : b.length ≤ a.length) : b ⊆ a := by
  induction a generalizing b with
  | nil => simp [eq_nil_of_length_eq_zero (Nat.le_zero.mp hl)]
  | cons x a ih =>
    rw [nodup_cons] at hd
    have hx : x ∈ b := hs mem_cons_self
    have := ih (b := b.erase x) hd.2
      (fun y hy => (mem_erase_of_ne fun e : y = x => hd.1 (e ▸ hy)).mpr (hs (mem_cons_of_mem _ hy)))
      (by rw [length_erase_of_mem hx]; simp at hl; omega)
    intro z hz
    by_cases hzx : z = x
    · exact hzx ▸ mem_cons_self
    · exact mem_cons_of_mem _ (this ((mem_erase_of_ne hzx).mpr hz))

theorem le_foldl_max (l : List Nat) (a : Nat) : a ≤ l.foldl max a ∧ ∀ x ∈ l, x ≤ l.foldl max a := by
  induction l generalizing a with
  | nil => simp
  | cons y ys ih =>
    obtain ⟨h1, h2⟩ := ih (max a y)
    refine ⟨Nat.le_trans (Nat.le_max_left a y) h1, fun x hx => ?_⟩
    rcases mem_cons.mp hx with rfl | hx
    · exact Nat.le_trans (Nat.le_max_right a x) h1
    · exact h2 x hx

theorem sum_le_mul (l : List Nat) (k : Nat) (h : ∀ x ∈ l, x ≤ k) : l.sum ≤ l.length * k := by
  induction l with
  | nil => simp
  | cons x xs ih =>
    have h1 := h x mem_cons_self
    have h2 := ih fun y hy => h y (mem_cons_of_mem _ hy)
    simp only [sum_cons, length_cons, Nat.succ_mul]
    omega

theorem sum_map_set (f : α → Nat) {l : List α} {i : Nat} {old : α} (new : α) (h : l[i]? = some old) :
    ((l.set i new).map f).sum + f old = (l.map f).sum + f new := by
  induction l generalizing i with
  | nil => simp at h
  | cons x xs ih =>
    cases i with
    | zero => cases h; simp only [set_cons_zero, map_cons, sum_cons]; omega
    | succ j => have := ih (i := j) h; simp only [set_cons_succ, map_cons, sum_cons]; omega

end List

theorem Option.eq_some_some {α : Type} {o : Option (Option α)} (h1 : o ≠ none) (h2 : o ≠ some none) :
    ∃ x, o = some (some x) := by
  cases o with
  | none => exact absurd rfl h1
  | some r => cases r with
    | none => exact absurd rfl h2
    | some x => exact ⟨x, rfl⟩

/-! ### the flat index `s * w + c` of cell `(s, c)` in a table of width `w` -/

namespace KikiVerif

theorem idx_lt {s n w c : Nat} (hs : s < n) (hc : c < w) : s * w + c < n * w := by
  have := Nat.mul_le_mul_right w (Nat.succ_le_of_lt hs)
  rw [Nat.succ_mul] at this
  omega

theorem getD_beyond {α : Type} {l : List α} {s n w k : Nat} {d : α} (hl : l.length = n * w) (hs : n ≤ s) :
    l.getD (s * w + k) d = d := by
  rw [List.getD_eq_getElem?_getD, List.getElem?_eq_none, Option.getD_none]
  have := Nat.mul_le_mul_right w hs
  omega

theorem idx_inj {w s1 c1 s2 c2 : Nat} (h1 : c1 < w) (h2 : c2 < w) (h : s1 * w + c1 = s2 * w + c2) :
    s1 = s2 ∧ c1 = c2 := by
  have hs : s1 = s2 := by
    have := congrArg (· / w) h
    simpa [Nat.mul_comm _ w, Nat.mul_add_div (Nat.zero_lt_of_lt h1), Nat.div_eq_of_lt h1, Nat.div_eq_of_lt h2]
      using this
  subst hs
  exact ⟨rfl, by omega⟩

end KikiVerif
