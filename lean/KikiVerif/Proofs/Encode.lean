/-
`Encode.encode`: the coded grammar is the declared grammar with every name replaced by its rank
(`encode_faithful`), hence well-formed (`CtxOK`: every terminal code is below `nT`, every nonterminal code below
`nN`) — the premise of the generator theorem, for every validated file.
-/
import KikiVerif.Model.Encode
import KikiVerif.Proofs.First

namespace KikiVerif
namespace Encode
open Machine LR

theorem idxOf_get {l : List Str} {a : Str} {i : Nat} (h : l.idxOf? a = some i) : l[i]? = some a := by
  obtain ⟨hlt, hget, _⟩ := List.idxOf?_eq_some_iff.mp h
  rw [List.getElem?_eq_getElem hlt, hget]

/-- `X` is the code of `s`: the name at position `X` of the sorted names of its kind is the name of `s` -/
def decodesTo (ts ns : List Str) : Ast.SymId → Sym Nat Nat → Prop
  | .t i, .t a => ts[a]? = some i.name
  | .n i, .n b => ns[b]? = some i.name
  | _, _ => False

theorem codeSym_decodes {ts ns : List Str} {s : Ast.SymId} {X : Sym Nat Nat} (h : codeSym ts ns s = some X) :
    decodesTo ts ns s X := by
  cases s with
  | t i =>
    simp only [codeSym] at h
    cases hi : ts.idxOf? i.name with
    | none => rw [hi] at h; cases h
    | some k => rw [hi] at h; cases h; exact idxOf_get hi
  | n i =>
    simp only [codeSym] at h
    cases hi : ns.idxOf? i.name with
    | none => rw [hi] at h; cases h
    | some k => rw [hi] at h; cases h; exact idxOf_get hi

/-- **the name ↔ rank coding is faithful**: rule `j` of the coded grammar is rule `j` of the validated file with
every name replaced by its index in the (strictly ascending, hence duplicate-free) sorted name list — so
decoding the ranks gives back exactly the declared production; the coded start symbol decodes to the declared
start symbol; `nT`, `nN` are the numbers of distinct declared terminal and nonterminal names -/
theorem encode_faithful {f : VFile.File} {enc : Enc} (h : encode f = some enc) :
    Oset.Sorted enc.tsorted ∧ Oset.Sorted enc.nsorted ∧
    (∀ x, x ∈ enc.tsorted ↔ x ∈ f.tenum.variants.map (·.name)) ∧
    (∀ x, x ∈ enc.nsorted ↔ x ∈ f.nonterminals.map (·.name)) ∧
    enc.ctx.nT = enc.tsorted.length ∧ enc.ctx.nN = enc.nsorted.length ∧
    enc.nsorted[enc.ctx.g.start]? = some f.start ∧
    enc.ctx.g.rules.length = f.rules.length ∧
    ∀ (j : Nat) (r : VFile.Rule), f.rules[j]? = some r → ∃ cr : Rule Nat Nat, enc.ctx.g.rules[j]? = some cr ∧
      enc.nsorted[cr.lhs]? = some r.ctor.typeName ∧ cr.rhs.length = r.fieldset.syms.length ∧
      ∀ (k : Nat) (s : Ast.SymId), r.fieldset.syms[k]? = some s →
        ∃ X, cr.rhs[k]? = some X ∧ decodesTo enc.tsorted enc.nsorted s X := by
  unfold encode at h
  simp only at h
  split at h
  · rename_i rules start tdecl ndecl hrules hstart _ _
    cases h
    refine ⟨Oset.ofList_sorted _, Oset.ofList_sorted _, fun x => Oset.mem_ofList _ x, fun x => Oset.mem_ofList _ x,
      rfl, rfl, idxOf_get hstart, List.length_of_mapM_eq_some hrules, ?_⟩
    intro j r hj
    obtain ⟨cr, hcr, hcode⟩ := List.getElem?_of_mapM_eq_some hrules hj
    refine ⟨cr, hcr, ?_⟩
    unfold codeRule at hcode
    split at hcode
    · rename_i lhs rhs hl hr
      cases hcode
      refine ⟨idxOf_get hl, List.length_of_mapM_eq_some hr, ?_⟩
      intro k s hk
      obtain ⟨X, hX, hc⟩ := List.getElem?_of_mapM_eq_some hr hk
      exact ⟨X, hX, codeSym_decodes hc⟩
    · cases hcode
  · cases h

/-- **every validated file that can be coded gives a well-formed coded grammar**: a code that decodes to a name is
below the number of names -/
theorem encode_ok {f : VFile.File} {enc : Enc} (h : encode f = some enc) : Assemble.CtxOK enc.ctx := by
  obtain ⟨_, _, _, _, hT, hN, hstart, hlen, hrules⟩ := encode_faithful h
  have lt : ∀ {l : List Str} {i : Nat} {x : Str}, l[i]? = some x → i < l.length :=
    fun h => (List.getElem?_eq_some_iff.mp h).1
  have rule : ∀ r ∈ enc.ctx.g.rules, r.lhs < enc.nsorted.length ∧
      (∀ a, Sym.t a ∈ r.rhs → a < enc.tsorted.length) ∧ ∀ b, Sym.n b ∈ r.rhs → b < enc.nsorted.length := by
    intro r hr
    obtain ⟨j, hj⟩ := List.getElem?_of_mem hr
    have hjlt : j < f.rules.length := by rw [← hlen]; exact (List.getElem?_eq_some_iff.mp hj).1
    obtain ⟨cr, hcr, hl, hlen2, hs⟩ := hrules j _ (List.getElem?_eq_getElem hjlt)
    obtain rfl : cr = r := Option.some.inj (hcr.symm.trans hj)
    have sym : ∀ X ∈ cr.rhs, ∃ s, decodesTo enc.tsorted enc.nsorted s X := by
      intro X hX
      obtain ⟨k, hk⟩ := List.getElem?_of_mem hX
      have hklt : k < f.rules[j].fieldset.syms.length := by rw [← hlen2]; exact (List.getElem?_eq_some_iff.mp hk).1
      obtain ⟨X', hX', hd⟩ := hs k _ (List.getElem?_eq_getElem hklt)
      obtain rfl : X' = X := Option.some.inj (hX'.symm.trans hk)
      exact ⟨_, hd⟩
    refine ⟨lt hl, fun a ha => ?_, fun b hb => ?_⟩
    · obtain ⟨s, hd⟩ := sym _ ha
      cases s with
      | t _ => exact lt hd
      | n _ => cases hd
    · obtain ⟨s, hd⟩ := sym _ hb
      cases s with
      | t _ => cases hd
      | n _ => exact lt hd
  rw [← hT, ← hN] at rule
  exact
    { terms := fun r hr => (rule r hr).2.1
      start := by rw [hN]; exact lt hstart
      lhs := fun r hr => (rule r hr).1
      nts := fun r hr => (rule r hr).2.2 }

end Encode
end KikiVerif
