/-
The generator theorem: for every coded grammar, whenever `validated_ast_to_machine` and `machine_to_table`
succeed, machine and table pass the validator's checks, so the automaton they denote is `Sound` and `Complete`;
the emitted driver (`Driver.autoOfTable`, which knows ACTION and GOTO only) takes the same steps.
-/
import KikiVerif.Proofs.Assemble
import KikiVerif.Proofs.Run
import KikiVerif.Proofs.Tight
import KikiVerif.Model.Driver
import KikiVerif.LR.Halt

namespace KikiVerif
namespace Universal
open Machine Table Assemble
open LR

variable {c : Ctx} {fm : List FirstSet} {m : Machine} {t : Table.Table}

theorem auto_eq (cells : Cells c m t) :
    (Valid.mkAuto (certOf c fm m t)).action = (Driver.autoOfTable t).action ∧
    (Valid.mkAuto (certOf c fm m t)).goto = (Driver.autoOfTable t).goto ∧
    (Valid.mkAuto (certOf c fm m t)).start = (Driver.autoOfTable t).start := by
  have hact : ∀ s col, ¬ s < m.states.length → t.action s col = .err := fun s col hs =>
    getD_beyond (cells.alen.trans (by rw [cells.nT])) (Nat.le_of_not_lt hs)
  have hgoto : ∀ s b, ¬ s < m.states.length → t.goto s b = none := fun s b hs =>
    getD_beyond (cells.glen.trans (by rw [cells.nN])) (Nat.le_of_not_lt hs)
  refine ⟨?_, ?_, cells.start.symm⟩
  · funext s la
    show (certOf c fm m t).act s la = _
    by_cases hs : s < m.states.length <;> cases la <;>
      simp [act_none_certOf, act_some_certOf, Driver.autoOfTable, cells.nT, hs, hact]
  · funext s b
    show (certOf c fm m t).goto s b = _
    by_cases hs : s < m.states.length <;> simp [goto_certOf, Driver.autoOfTable, cells.nN, hs, hgoto]

/-- **the generator is correct, every grammar**: machine and table pass the validator -/
theorem generator_checked (ok : CtxOK c) {fuel : Nat} (hm : machineOf c fuel = some (some m))
    (ht : machineToTable c m = .ok t) : ∃ fm, Valid.Checked c.g c.nN (certOf c fm m t) ∧ Cells c m t := by
  obtain ⟨fm, hfm, mok⟩ := machineOf_ok ok.terms hm
  have cells := machineToTable_cells ht
  exact ⟨fm, checked_of_generator ok (firstSets_bound ok.terms hfm) (firstSets_closed hfm).1 mok cells, cells⟩

theorem run_eq {P : Type} (cells : Cells c m t) (fuel : Nat) (w : List (Tok Nat P)) :
    runCfg c.g (Driver.autoOfTable t) fuel ⟨[(Driver.autoOfTable t).start], [], w⟩ =
      runCfg c.g (Valid.mkAuto (certOf c fm m t)) fuel ⟨[(Valid.mkAuto (certOf c fm m t)).start], [], w⟩ := by
  obtain ⟨h1, h2, h3⟩ := auto_eq (fm := fm) cells
  rw [h3]
  exact (runCfg_congr (fun cfg => step_congr_auto h1 h2 cfg) fuel _).symm

theorem emitted_parser_result {P : Type} (ok : CtxOK c) {fuel : Nat} (hm : machineOf c fuel = some (some m))
    (ht : machineToTable c m = .ok t) {w : List (Tok Nat P)} {fuel' : Nat} {r : StepRes Nat P} {cf : Cfg Nat P}
    (hrun : runCfg c.g (Driver.autoOfTable t) fuel' ⟨[(Driver.autoOfTable t).start], [], w⟩ = some (r, cf)) :
    r ≠ .panic ∧ ∀ tr, r = .ok tr ↔ WF c.g tr (.n c.g.start) ∧ tr.yield = w := by
  obtain ⟨fm, hk, cells⟩ := generator_checked ok hm ht
  rw [run_eq (fm := fm) cells] at hrun
  exact run_result (Valid.sound_of_checked hk) (Valid.complete_of_checked hk) hrun

/-- **C01 for every grammar**: whenever the generator produces a table, the emitted parse loop over it never
panics, and whenever it ends it returns `Ok` iff the token sequence is derivable from the start symbol -/
theorem emitted_parser_correct {P : Type} (ok : CtxOK c) {fuel : Nat} (hm : machineOf c fuel = some (some m))
    (ht : machineToTable c m = .ok t) (w : List (Tok Nat P)) (fuel' : Nat) (r : StepRes Nat P) (cf : Cfg Nat P)
    (hrun : runCfg c.g (Driver.autoOfTable t) fuel' ⟨[(Driver.autoOfTable t).start], [], w⟩ = some (r, cf)) :
    r ≠ .panic ∧ ((∃ tr, r = .ok tr) ↔ ∃ tr : Tree Nat P, WF c.g tr (.n c.g.start) ∧ tr.yield = w) :=
  ⟨(emitted_parser_result ok hm ht hrun).1, exists_congr (emitted_parser_result ok hm ht hrun).2⟩

/-- the derivation tree itself is what is returned -/
theorem emitted_parser_tree {P : Type} (ok : CtxOK c) {fuel : Nat} (hm : machineOf c fuel = some (some m))
    (ht : machineToTable c m = .ok t) (w : List (Tok Nat P)) (fuel' : Nat) (tr : Tree Nat P) (cf : Cfg Nat P)
    (hrun : runCfg c.g (Driver.autoOfTable t) fuel' ⟨[(Driver.autoOfTable t).start], [], w⟩ = some (.ok tr, cf)) :
    WF c.g tr (.n c.g.start) ∧ tr.yield = w :=
  ((emitted_parser_result ok hm ht hrun).2 tr).mp rfl

def decRule (c : Ctx) (r : Nat) : Option Nat := if r = c.numRules then none else some r

theorem rhsOf_dec {r d : Nat} {X : Sym Nat Nat} (h : (rhsOf c r)[d]? = some X) :
    c.g.rhsOf (decRule c r) = some (rhsOf c r) := by
  by_cases e : r = c.numRules <;> simp only [decRule, rhsOf, e, ↓reduceIte] at h ⊢
  · rfl
  · cases hr : c.g.rules[r]? with
    | none => simp [hr] at h
    | some rule => exact rhsOf_some hr

/-- generation at the level of coded cores is generation in the sense of `LR/Via.lean` -/
theorem coreReach_of_creach {K : Option Nat → Nat → Prop} {KC : Core → Prop}
    (hK : ∀ p, KC p → K (decRule c p.1) p.2) {q : Core} (h : CReach c fm KC q) :
    CoreReach c.g K (decRule c q.1) q.2 := by
  induction h with
  | kernel hk => exact .kernel (hK _ hk)
  | @step p q _ hi ih =>
    obtain ⟨b, hb, _, hq1, hq2⟩ := mem_impliedCores.mp hi
    obtain ⟨rule, hjr, hl⟩ := mem_ruleIndicesFor.mp hq1
    have hdec : decRule c q.1 = some q.1 := if_neg <| by
      have := (List.getElem?_eq_some_iff.mp hjr).1
      unfold Ctx.numRules; omega
    rw [hdec, hq2]
    exact .step ih (rhsOf_dec hb) (by rw [hb, hl]) hjr

theorem coreSound_of_generator (mok : MachineOK c fm m) (cells : Cells c m t) :
    CoreSound c.g (Valid.mkAuto (certOf c fm m t)) ∧ NonEmpty (Valid.mkAuto (certOf c fm m t)) := by
  constructor
  · constructor
    · intro r d a hit
      obtain ⟨x, hx, e⟩ := (items_certOf (c := c) (fm := fm) (t := t) m.start ⟨r, d, a⟩).mp hit
      cases e
      exact coreReach_of_creach (fun p hp => by cases hp; exact ⟨if_pos rfl, rfl⟩) (mok.zcore x hx)
    · intro s X t' hd r d a hit
      obtain ⟨hs, htr⟩ := delta_transition cells hd
      obtain ⟨y, hy, e⟩ := (items_certOf (c := c) (fm := fm) (t := t) t' ⟨r, d, a⟩).mp hit
      have hcr := mok.tcore _ htr y hy
      simp only at hcr
      cases e
      refine coreReach_of_creach ?_ hcr
      rintro p ⟨x', hx', rfl⟩
      obtain ⟨x, hx, hsym, rfl⟩ := mem_transitionItems.mp hx'
      refine ⟨x.dot, decodeLa c x.la, rhsOf c x.rule, rfl, ?_, rhsOf_dec hsym, hsym⟩
      exact (items_certOf s _).mpr ⟨x, hx, rfl⟩
  · intro s X t' hd
    obtain ⟨_, htr⟩ := delta_transition (fm := fm) cells hd
    obtain ⟨y, hy, _⟩ := mok.hasKernel _ htr
    exact ⟨decodeItem c y, (items_certOf t' _).mpr ⟨y, hy, rfl⟩⟩

/-- **C03 for every grammar in which every nonterminal is productive**: an error stop of the emitted parse
loop has consumed a prefix of some sentence, its lookahead is the first offending token, and `Err(None)`
happens only on a proper prefix of a sentence -/
theorem emitted_parser_first_offending {P : Type} [Inhabited P] (ok : CtxOK c) {fuel : Nat}
    (hm : machineOf c fuel = some (some m)) (ht : machineToTable c m = .ok t)
    (hp : Valid.productiveB c.g = true) (w : List (Tok Nat P)) (fuel' : Nat) (cf : Cfg Nat P)
    (hrun : runCfg c.g (Driver.autoOfTable t) fuel' ⟨[(Driver.autoOfTable t).start], [], w⟩ = some (.err, cf)) :
    ∃ pre, w = pre ++ cf.rest ∧
      (∃ suf tr, WF c.g tr (.n c.g.start) ∧ tr.yield = pre ++ suf) ∧
      (∀ a r, cf.rest = a :: r → ∀ r' tr, WF c.g tr (.n c.g.start) → tr.yield ≠ pre ++ a :: r') ∧
      (cf.rest = [] → ∀ tr, WF c.g tr (.n c.g.start) → tr.yield ≠ w) := by
  obtain ⟨fm, hfm, mok⟩ := machineOf_ok ok.terms hm
  have cells := machineToTable_cells ht
  have hk := checked_of_generator ok (firstSets_bound ok.terms hfm) (firstSets_closed hfm).1 mok cells
  have hs := Valid.sound_of_checked hk
  have hc := Valid.complete_of_checked (P := P) hk
  obtain ⟨hcs, hne⟩ := coreSound_of_generator mok cells
  rw [run_eq (fm := fm) cells] at hrun
  obtain ⟨hsteps, herr, _⟩ := runCfg_spec fuel' _ _ _ hrun
  exact first_offending hs hc hcs hne (Valid.productiveB_sound hp) hsteps herr

/-- **termination of the emitted parser, per certified table**: if the termination certificate of `LR/Halt`
checks for the emitted table (a potential under which every reduction lowers `cc·height + φ`), the emitted parse
loop stops on *every* token sequence within `stepBound` (linear in its length) steps, without panicking, and
returns `Ok` iff the sequence is a sentence.  (`fm` only fills the FIRST field of the certificate, which the
check does not read.) -/
theorem emitted_parser_decides {P : Type} (ok : CtxOK c) {fuel : Nat} (hm : machineOf c fuel = some (some m))
    (ht : machineToTable c m = .ok t) (fm : List FirstSet)
    (hcert : Halt.certified (certOf c fm m t) c.g = true) (w : List (Tok Nat P)) :
    ∃ r cf, runCfg c.g (Driver.autoOfTable t) (Halt.stepBound (certOf c fm m t) c.g w.length)
        ⟨[(Driver.autoOfTable t).start], [], w⟩ = some (r, cf) ∧
      r ≠ .panic ∧ ((∃ tr, r = .ok tr) ↔ ∃ tr : Tree Nat P, WF c.g tr (.n c.g.start) ∧ tr.yield = w) := by
  obtain ⟨⟨r, cf⟩, hr⟩ := Halt.certified_halts hcert w
  have hrun := (run_eq (fm := fm) (machineToTable_cells ht) _ w).trans hr
  exact ⟨r, cf, hrun, emitted_parser_correct ok hm ht w _ r cf hrun⟩

/-- the same with the sharper certificate (`Halt.certifiedF`: framed simulation of every reduce run) -/
theorem emitted_parser_decidesF {P : Type} (ok : CtxOK c) {fuel : Nat} (hm : machineOf c fuel = some (some m))
    (ht : machineToTable c m = .ok t) (fm : List FirstSet)
    (hcert : Halt.certifiedF (certOf c fm m t) c.g = true) (w : List (Tok Nat P)) :
    ∃ fuel' r cf, runCfg c.g (Driver.autoOfTable t) fuel' ⟨[(Driver.autoOfTable t).start], [], w⟩ = some (r, cf) ∧
      r ≠ .panic ∧ ((∃ tr, r = .ok tr) ↔ ∃ tr : Tree Nat P, WF c.g tr (.n c.g.start) ∧ tr.yield = w) := by
  obtain ⟨fuel', ⟨r, cf⟩, hr⟩ := Halt.certifiedF_halts hcert w
  have hrun := (run_eq (fm := fm) (machineToTable_cells ht) _ w).trans hr
  exact ⟨fuel', r, cf, hrun, emitted_parser_correct ok hm ht w _ r cf hrun⟩

end Universal
end KikiVerif
