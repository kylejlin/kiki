/-
C16, end to end: two source texts whose token sequences agree up to positions give the same result of `generate`
(`SameResult`) up to the digest in the header and the positions in an error: `posOf t₂ k` for `posOf t₁ k` (`SameErr`).
-/
import KikiVerif.Proofs.Relabel
import KikiVerif.Proofs.Positions
import KikiVerif.Properties.C09
import KikiVerif.Model.Generate

namespace KikiVerif
namespace Layout
open Relabel Spec FrontParse Generate

/-- the position a token stores -/
def storedPos : Token → Nat
  | .underscore p | .startKw p | .structKw p | .enumKw p | .terminalKw p | .colon p | .dcolon p
  | .comma p | .lparen p | .rparen p | .lcurly p | .rcurly p | .langle p | .rangle p => p
  | .ident _ p => p
  | .termIdent _ p => p
  | .attr _ p => p

/-- the stored position of the `k`-th token -/
def posOf (toks : List Token) (k : Nat) : Nat := ((toks[k]?).map storedPos).getD 0

/-- `erase` undone: the token at position `k` -/
def _root_.KikiVerif.Spec.Tk.at (k : Nat) : Tk → Token
  | .underscore => .underscore k
  | .ident n => .ident n k
  | .termIdent n => .termIdent n k
  | .attr s => .attr s k
  | .startKw => .startKw k
  | .structKw => .structKw k
  | .enumKw => .enumKw k
  | .terminalKw => .terminalKw k
  | .colon => .colon k
  | .dcolon => .dcolon k
  | .comma => .comma k
  | .lparen => .lparen k
  | .rparen => .rparen k
  | .lcurly => .lcurly k
  | .rcurly => .rcurly k
  | .langle => .langle k
  | .rangle => .rangle k

theorem tokenMap_at (ρ : Nat → Nat) (k : Nat) (t : Token) :
    tokenMap ρ ((erase t).at k) = tokenMap (fun _ => ρ k) t := by
  cases t <;> rfl

theorem tokenMap_stored (t : Token) : tokenMap (fun _ => storedPos t) t = t := by cases t <;> rfl

/-- tokens with their own index as position: a function of the position-free tokens -/
def reindex (toks : List Token) : List Token := (toks.map erase).zipIdx.map fun x => x.1.at x.2

theorem reindex_map (toks : List Token) : (reindex toks).map (tokenMap (posOf toks)) = toks := by
  apply List.ext_getElem?
  intro k
  simp only [reindex, List.getElem?_map, List.getElem?_zipIdx, Nat.zero_add]
  cases h : toks[k]? with
  | none => rfl
  | some t => simp [tokenMap_at, posOf, h, tokenMap_stored]

theorem tokText_erase {a b : Token} (h : erase a = erase b) : tokText a = tokText b := by
  have key : ∀ t, tokText t = tokText ((erase t).at 0) := fun t => by cases t <;> rfl
  rw [key a, key b, h]

theorem moduleOf_sha (f : VFile.File) (enc : Encode.Enc) (t : Table.Table) (sha : Str) :
    Emit.moduleOf f enc t sha = (Emit.moduleOf f enc t []).map fun m => { m with sha := sha } := by
  simp only [Emit.moduleOf, bind, pure, Option.map_bind, Option.map_some, Function.comp_def]

-- `sha` does not occur in `Emit.body`; the unifier has to walk its ≈ 150 nested `++` to see that
set_option maxRecDepth 100000 in
theorem body_sha (m : Emit.Module) (sha : Str) : Emit.body { m with sha := sha } = Emit.body m := by
  unfold Emit.body
  rfl

/-- the same error: positions `posOf t1 k` and `posOf t2 k` for the same `k` (`static`; `k` need not be the index of a
token: `posOf` is then 0), or the span of the same-index token (`parseAt`) -/
inductive SameErr (src1 src2 : Str) (t1 t2 : List Token) : KErr → KErr → Prop
  | static (e0 : KErr) : SameErr src1 src2 t1 t2 (errMap (posOf t1) e0) (errMap (posOf t2) e0)
  | parseAt (k : Nat) (a b : Token) : t1[k]? = some a → t2[k]? = some b → erase a = erase b →
      SameErr src1 src2 t1 t2 (.parse (tokStart a) (tokText a) (tokStart a + Text.blen (tokText a)))
        (.parse (tokStart b) (tokText b) (tokStart b + Text.blen (tokText b)))
  | parseEof : SameErr src1 src2 t1 t2 (.parse (Text.blen src1) [] (Text.blen src1))
      (.parse (Text.blen src2) [] (Text.blen src2))

inductive SameStop (src1 src2 : Str) (t1 t2 : List Token) : Stop → Stop → Prop
  | done : SameStop src1 src2 t1 t2 .done .done
  | err {e1 e2} : SameErr src1 src2 t1 t2 e1 e2 → SameStop src1 src2 t1 t2 (.err e1) (.err e2)
  | conflict (s a b) : SameStop src1 src2 t1 t2 (.conflict s a b) (.conflict s a b)
  | panic (site) : SameStop src1 src2 t1 t2 (.panic site) (.panic site)
  | timeout (site) : SameStop src1 src2 t1 t2 (.timeout site) (.timeout site)

/-- what two runs of `generate` have in common when the layout does not matter -/
structure SameResult (src1 src2 sha1 sha2 : Str) (t1 t2 : List Token) (s1 s2 : Stages) : Prop where
  enc : s1.enc = s2.enc
  machine : s1.machine = s2.machine
  table : s1.table = s2.table
  module : (s1.module.map fun m => { m with sha := [] }) = (s2.module.map fun m => { m with sha := [] })
  text : ∀ x1, s1.text = some x1 → ∃ b, x1 = Emit.header sha1 ++ b ∧ s2.text = some (Emit.header sha2 ++ b)
  stop : SameStop src1 src2 t1 t2 s1.stop s2.stop

theorem relayout (src1 src2 sha1 sha2 : Str) (fuel : Nat) (t1 t2 : List Token)
    (h1 : Tokenize.tokenize src1 = .ok t1) (h2 : Tokenize.tokenize src2 = .ok t2)
    (he : t1.map erase = t2.map erase) :
    SameResult src1 src2 sha1 sha2 t1 t2 (stages src1 sha1 fuel) (stages src2 sha2 fuel) := by
  -- both token lists are relabellings of `reindex t1`
  have e0 : reindex t2 = reindex t1 := by unfold reindex; rw [he]
  have p1 : parse t1 fuel = (parse (reindex t1) fuel).map (outMap (posOf t1)) := by
    simpa only [reindex_map] using parse_map (posOf t1) (reindex t1) fuel
  have p2 : parse t2 fuel = (parse (reindex t1) fuel).map (outMap (posOf t2)) := by
    have := parse_map (posOf t2) (reindex t2) fuel
    rwa [reindex_map, e0] at this
  unfold stages
  simp only [Id.run, pure]
  rw [h1, h2]
  simp only
  rw [p1, p2]
  cases hp : parse (reindex t1) fuel with
  | none => exact ⟨rfl, rfl, rfl, rfl, nofun, .timeout _⟩
  | some out0 =>
    cases out0 with
    | panic => exact ⟨rfl, rfl, rfl, rfl, nofun, .panic _⟩
    | unexpected idx =>
      simp only [Option.map_some, outMap]
      have q1 : parse t1 fuel = some (.unexpected idx) := by rw [p1, hp]; rfl
      have q2 : parse t2 fuel = some (.unexpected idx) := by rw [p2, hp]; rfl
      obtain ⟨a1, a2, a3⟩ := C09.C09_error_span src1 t1 h1 fuel idx q1
      obtain ⟨b1, b2, b3⟩ := C09.C09_error_span src2 t2 h2 fuel idx q2
      cases idx with
      | none =>
        simp only [Option.bind_none, a3, b3]
        exact ⟨rfl, rfl, rfl, rfl, nofun, .err .parseEof⟩
      | some k =>
        have hk1 := a1 k rfl
        have hk2 := b1 k rfl
        have g1 : t1[k]? = some t1[k] := List.getElem?_eq_getElem hk1
        have g2 : t2[k]? = some t2[k] := List.getElem?_eq_getElem hk2
        have hea : erase t1[k] = erase t2[k] := by simpa [g1, g2] using congrArg (·[k]?) he
        simp only [Option.bind_some, g1, g2, a2 t1[k] (by simp [g1]), b2 t2[k] (by simp [g2])]
        exact ⟨rfl, rfl, rfl, rfl, nofun, .err (.parseAt k _ _ g1 g2 hea)⟩
    | ok cst0 =>
      simp only [Option.map_some, outMap]
      obtain ⟨ast0, hast0, _⟩ := C09.C09_flatten (reindex t1) fuel cst0 hp
      rw [cstToAst_map (posOf t1) hast0, cstToAst_map (posOf t2) hast0]
      simp only
      rw [validateAst_map, validateAst_map]
      cases hv : Validate.validateAst ast0 with
      | err e => exact ⟨rfl, rfl, rfl, rfl, nofun, .err (.static e)⟩
      | panic site => exact ⟨rfl, rfl, rfl, rfl, nofun, .panic _⟩
      | ok vf0 =>
        simp only [rmap]
        rw [encode_map, encode_map]
        cases henc : Encode.encode vf0 with
        | none => exact ⟨rfl, rfl, rfl, rfl, nofun, .panic _⟩
        | some enc =>
          simp only
          cases hm : Machine.machineOf enc.ctx fuel with
          | none => exact ⟨rfl, rfl, rfl, rfl, nofun, .timeout _⟩
          | some r =>
            cases r with
            | none => exact ⟨rfl, rfl, rfl, rfl, nofun, .panic _⟩
            | some m =>
              simp only
              cases ht : Table.machineToTable enc.ctx m with
              | conflict s a b => exact ⟨rfl, rfl, rfl, rfl, nofun, .conflict _ _ _⟩
              | panic site => exact ⟨rfl, rfl, rfl, rfl, nofun, .panic _⟩
              | ok t =>
                simp only
                rw [moduleOf_map, moduleOf_map, moduleOf_sha vf0 enc t sha1, moduleOf_sha vf0 enc t sha2]
                cases hmd : Emit.moduleOf vf0 enc t [] with
                | none => exact ⟨rfl, rfl, rfl, rfl, nofun, .panic _⟩
                | some md =>
                  simp only [Option.map_some]
                  refine ⟨rfl, rfl, rfl, rfl, ?_, .done⟩
                  intro x hx
                  simp only [Option.some.injEq] at hx
                  subst hx
                  exact ⟨Emit.body md, by simp [Emit.render, body_sha], by simp [Emit.render, body_sha]⟩

end Layout
end KikiVerif
