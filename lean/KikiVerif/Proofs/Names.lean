/-
The internal names of the emitted module (`create_unique_identifier`, `SrcBuilder::new`): the search always finds
a name, and the names found are new and pairwise distinct.
-/
import KikiVerif.Model.Emit
import Std.Data.String.ToNat

namespace KikiVerif

namespace C05

def Names.toList (n : Emit.Names) : List Str :=
  [n.eof, n.quasiterminal, n.quasiterminalKind, n.nonterminalKind, n.state, n.node, n.action, n.ruleKind,
   n.reducePrefix, n.actionTable, n.gotoTable, n.parseParam]

end C05

namespace Emit
open Text C05

theorem natToStr_inj {a b : Nat} (h : natToStr a = natToStr b) : a = b :=
  Nat.repr_injective (String.toList_injective h)

theorem firstFree_none {pref : Str} {used : List Str} : ∀ (fuel i : Nat), firstFree pref used fuel i = none →
    ∀ k, k < fuel → pref ++ natToStr (i + k) ∈ used
  | 0, _, _, _, hk => absurd hk (Nat.not_lt_zero _)
  | fuel + 1, i, h, k, hk => by
    simp only [firstFree] at h
    split at h <;> rename_i hc
    · cases k with
      | zero => simpa using hc
      | succ k => simpa [Nat.add_assoc, Nat.add_comm 1] using firstFree_none fuel (i + 1) h k (by omega)
    · cases h

theorem firstFree_not_used (pref : Str) (used : List Str) :
    ∀ fuel i n, firstFree pref used fuel i = some n → n ∉ used
  | 0, _, _, h => nomatch h
  | fuel + 1, i, n, h => by
    simp only [firstFree] at h
    split at h <;> rename_i hc
    · exact firstFree_not_used pref used fuel _ n h
    · cases h; simpa using hc

/-- `create_unique_identifier` always finds a name (pigeonhole: `used.len() + 1` distinct candidates cannot all be
in use) -/
theorem createUniqueIdentifier_isSome (pref : Str) (used : List Str) : (createUniqueIdentifier pref used).isSome := by
  unfold createUniqueIdentifier
  split
  · rfl
  · cases hf : firstFree pref used (used.length + 1) 2 with
    | some n => rfl
    | none =>
      have hnd : ((List.range (used.length + 1)).map fun k => pref ++ natToStr (2 + k)).Nodup :=
        List.nodup_range.map _ fun a b hab e => hab (by have := natToStr_inj (List.append_cancel_left e); omega)
      have := hnd.length_le_of_subset (l₂ := used) fun x hx => by
        obtain ⟨k, hk, rfl⟩ := List.mem_map.mp hx
        exact firstFree_none _ 2 hf k (List.mem_range.mp hk)
      exact absurd this (by simp)

theorem createUniqueIdentifier_fresh {pref : Str} {used : List Str} {n : Str} {used' : List Str}
    (h : createUniqueIdentifier pref used = some (n, used')) : n ∉ used ∧ used' = used ++ [n] := by
  unfold createUniqueIdentifier at h
  split at h <;> rename_i hc
  · cases h; exact ⟨by simpa using hc, rfl⟩
  · obtain ⟨m, hf, h⟩ := Option.map_eq_some_iff.mp h
    cases h; exact ⟨firstFree_not_used pref used _ _ _ hf, rfl⟩

/-- `create_unique_identifier` for each of a list of preferred names in turn -/
def chooseAll : List Str → List Str → Option (List Str)
  | [], _ => some []
  | p :: ps, u => (createUniqueIdentifier p u).bind fun r => (chooseAll ps r.2).map (r.1 :: ·)

theorem chooseNames_eq (used0 : List Str) : (chooseNames used0).map Names.toList =
    chooseAll [L "Eof", L "Quasiterminal", L "QuasiterminalKind", L "NonterminalKind", L "State", L "Node", L "Action",
      L "RuleKind", L "reduce", L "ACTION_TABLE", L "GOTO_TABLE", L "S"] used0 := by
  simp only [chooseNames, chooseAll, Option.bind_eq_bind, Option.pure_def, Option.map_bind, Option.map_some,
    Names.toList, Function.comp_def]

theorem chooseAll_isSome : ∀ ps u : List Str, (chooseAll ps u).isSome
  | [], _ => rfl
  | p :: ps, u => by
    obtain ⟨r, hr⟩ := Option.isSome_iff_exists.mp (createUniqueIdentifier_isSome p u)
    simp [chooseAll, hr, chooseAll_isSome ps]

theorem chooseAll_fresh : ∀ ps u ns : List Str, chooseAll ps u = some ns → ns.Nodup ∧ ∀ x ∈ ns, x ∉ u
  | [], _, _, h => by cases h; simp
  | p :: ps, u, _, h => by
    simp only [chooseAll, Option.bind_eq_some_iff, Option.map_eq_some_iff] at h
    obtain ⟨⟨n, u'⟩, h1, ns, h2, rfl⟩ := h
    obtain ⟨hn, rfl⟩ := createUniqueIdentifier_fresh h1
    obtain ⟨hnd, hfresh⟩ := chooseAll_fresh ps _ ns h2
    refine ⟨List.nodup_cons.mpr ⟨fun hm => hfresh n hm (by simp), hnd⟩, List.forall_mem_cons.mpr ⟨hn, ?_⟩⟩
    exact fun x hx hm => hfresh x hx (List.mem_append_left _ hm)

end Emit

open Emit in
theorem EmitTotal.chooseNames_some (used0 : List Str) : ∃ n, chooseNames used0 = some n :=
  Option.isSome_iff_exists.mp (by
    rw [← Option.isSome_map (f := C05.Names.toList), chooseNames_eq]; exact chooseAll_isSome _ _)

end KikiVerif
