/-
Putting the stages together: for every coded grammar, whenever `validated_ast_to_machine` and `machine_to_table`
succeed, the machine and table form an automaton that passes every check of the validator (`Checked`), hence is
`Sound ∧ Complete` — for every grammar, not per grammar.
-/
import KikiVerif.Proofs.Generator
import KikiVerif.Proofs.TableCells
import KikiVerif.Proofs.Valid

namespace KikiVerif
namespace Assemble
open Machine Table
open LR (Sym Rule Grammar Action)
open Valid (Cert It)

/-- machine item ↦ validator item (`numRules` = augmented rule, `nT` = end of input) -/
def decodeItem (c : Ctx) (x : Item) : It :=
  ⟨if x.rule = c.numRules then none else some x.rule, x.dot, if x.la = c.nT then none else some x.la⟩

/-- the automaton as the validator sees it -/
def certOf (c : Ctx) (fm : List FirstSet) (m : Machine) (t : Table.Table) : Cert :=
  { nT := c.nT, start := m.start,
    states := m.states.map fun st => st.map (decodeItem c),
    actions := (List.range m.states.length).map fun s => (List.range (c.nT + 1)).map fun col => t.action s col,
    gotos := (List.range m.states.length).map fun s => (List.range c.nN).map fun b => t.goto s b,
    first := toTbl fm }

variable {c : Ctx} {fm : List FirstSet} {m : Machine} {t : Table.Table}

theorem items_certOf (s : Nat) (it : It) :
    it ∈ (certOf c fm m t).items s ↔ ∃ x ∈ m.states.getD s [], decodeItem c x = it := by
  simp only [Cert.items, certOf, List.getD_eq_getElem?_getD, List.getElem?_map]
  cases m.states[s]? <;> simp

theorem act_none_certOf (s : Nat) :
    (certOf c fm m t).act s none = if s < m.states.length then t.action s c.nT else .err := by
  simp only [Cert.act, certOf, List.getElem?_map]
  split <;> simp [*]

theorem act_some_certOf (s a : Nat) :
    (certOf c fm m t).act s (some a) = if a < c.nT ∧ s < m.states.length then t.action s a else .err := by
  simp only [Cert.act, certOf, List.getElem?_map]
  by_cases ha : a < c.nT <;> by_cases hs : s < m.states.length <;>
    simp [ha, hs, Nat.lt_succ_of_lt]

theorem goto_certOf (s b : Nat) :
    (certOf c fm m t).goto s b = if b < c.nN ∧ s < m.states.length then t.goto s b else none := by
  simp only [Cert.goto, certOf, List.getElem?_map]
  by_cases hb : b < c.nN <;> by_cases hs : s < m.states.length <;> simp [hb, hs]

theorem rhsOf_decode {x : Item} (hx : x.rule ≤ c.numRules) :
    c.g.rhsOf (decodeItem c x).rule = some (rhsOf c x.rule) := by
  unfold decodeItem rhsOf
  simp only
  by_cases h : x.rule = c.numRules
  · rw [if_pos h, if_pos h]; rfl
  · rw [if_neg h, if_neg h]
    have hlt : x.rule < c.g.rules.length := by unfold Ctx.numRules at hx h; omega
    simp only [Grammar.rhsOf, List.getElem?_eq_getElem hlt, Option.map_some]

theorem sym_bound (ok : CtxOK c) {x : Item} {X : Sym Nat Nat} (h : symRightOfDot c x = some X) :
    match X with
    | .t a => a < c.nT
    | .n b => b < c.nN := by
  rcases mem_rhsOf (List.mem_of_getElem? h) with e | ⟨r, hr, hm⟩
  · cases e; exact ok.start
  · cases X with
    | t a => exact ok.terms r hr a hm
    | n b => exact ok.nts r hr b hm

theorem mem_items_of (s : Nat) {x : Item} (hx : x ∈ m.states.getD s []) :
    decodeItem c x ∈ (certOf c fm m t).items s := (items_certOf s _).mpr ⟨x, hx, rfl⟩

/-! ### lookaheads: the coded list (`nT` = end of input) and the validator's `firstSeq` (`none` = end of input) -/

def decodeLa (c : Ctx) (la : Nat) : Option Nat := if la = c.nT then none else some la
def codeLa (c : Ctx) : Option Nat → Nat
  | none => c.nT
  | some a => a

theorem decode_la (x : Item) : (decodeItem c x).la = decodeLa c x.la := rfl
theorem decode_rule_none {x : Item} (h : x.rule = c.numRules) : (decodeItem c x).rule = none := if_pos h
theorem decode_rule_some {x : Item} (h : x.rule ≠ c.numRules) : (decodeItem c x).rule = some x.rule := if_neg h

theorem codeLa_decodeLa (c : Ctx) (la : Nat) : codeLa c (decodeLa c la) = la := by
  unfold decodeLa; split <;> simp [codeLa, *]

theorem decodeLa_codeLa (c : Ctx) {b : Option Nat} (hb : ∀ a, b = some a → a < c.nT) : decodeLa c (codeLa c b) = b := by
  cases b with
  | none => simp [codeLa, decodeLa]
  | some a => exact if_neg (Nat.ne_of_lt (hb a rfl))

theorem firstSeq_in_las (hfb : FmBound c.nT fm) {β : List (Sym Nat Nat)} {la : Nat} {las : List Nat}
    (hβ : ∀ a, Sym.t a ∈ β → a < c.nT) (h : augmentedFirst fm β la = some las) {b : Option Nat}
    (hb : b ∈ Valid.firstSeq (toTbl fm) β (decodeLa c la)) : codeLa c b ∈ las ∧ decodeLa c (codeLa c b) = b := by
  unfold Valid.firstSeq at hb
  rcases List.mem_append.mp hb with hb | hb
  · obtain ⟨a, ha, rfl⟩ := List.mem_map.mp hb
    exact ⟨(las_mem h a).mpr (Or.inl ha), decodeLa_codeLa c fun a' e => by cases e; exact seqTerms_bound hfb β hβ a ha⟩
  · split at hb
    · rename_i hn
      cases List.mem_singleton.mp hb
      rw [codeLa_decodeLa]
      exact ⟨(las_mem h la).mpr (Or.inr ⟨hn, rfl⟩), rfl⟩
    · cases hb

theorem demand_item (mok : MachineOK c fm m) {s : Nat} (hs : s < m.states.length) {x : Item}
    (hx : x ∈ m.states.getD s []) : Table.demand c m s x = match symRightOfDot c x with
      | some (.t a) => (getShiftDest m s a).map fun d => (a, .shift d)
      | some (.n _) => none
      | none => if x.rule = c.numRules then some (c.nT, .accept) else some (x.la, .reduce x.rule) := by
  rw [demand_eq, want_rightOfDot ((mok.good s hs).wf x hx).1 ((mok.good s hs).wf x hx).2.1]
  cases symRightOfDot c x with
  | none => dsimp only; split <;> rfl
  | some X => cases X <;> rfl

theorem demand_shift (mok : MachineOK c fm m) {s : Nat} (hs : s < m.states.length) {x : Item}
    (hx : x ∈ m.states.getD s []) {a : Nat} (hX : symRightOfDot c x = some (.t a)) {t' : Nat}
    (htr : (⟨s, t', .t a⟩ : Transition) ∈ m.transitions) :
    Table.demand c m s x = some (a, .shift t') := by
  rw [demand_item mok hs hx, hX]
  simp only [getShiftDest_of_mem mok.func htr, Option.map_some]

theorem demand_col_le (ok : CtxOK c) (mok : MachineOK c fm m) {s : Nat} (hs : s < m.states.length) {x : Item}
    (hx : x ∈ m.states.getD s []) {col : Nat} {A : Action} (hd : Table.demand c m s x = some (col, A)) :
    col ≤ c.nT := by
  rw [demand_item mok hs hx] at hd
  split at hd
  · rename_i a hX
    obtain ⟨d, _, e⟩ := Option.map_eq_some_iff.mp hd
    cases e
    exact Nat.le_of_lt (sym_bound ok hX)
  · cases hd
  · split at hd <;> cases hd
    · exact Nat.le_refl _
    · exact ((mok.good s hs).wf x hx).2.2

theorem act_of_demand (ok : CtxOK c) (mok : MachineOK c fm m) (cells : Cells c m t) {s : Nat}
    (hs : s < m.states.length) {x : Item} (hx : x ∈ m.states.getD s []) {col : Nat} {A : Action}
    (hd : Table.demand c m s x = some (col, A)) : (certOf c fm m t).act s (decodeLa c col) = A := by
  have hcell := cells.demand s _ (List.getElem?_eq_some_getD hs []) x hx col A hd
  have hle := demand_col_le ok mok hs hx hd
  unfold decodeLa
  split
  · rename_i e; rw [act_none_certOf, if_pos hs, ← e]; exact hcell
  · rw [act_some_certOf, if_pos ⟨by omega, hs⟩]; exact hcell

theorem demand_of_act (cells : Cells c m t) {s : Nat} {a : Option Nat} (hne : (certOf c fm m t).act s a ≠ .err) :
    s < m.states.length ∧ (∀ a', a = some a' → a' < c.nT) ∧
      ∃ x ∈ m.states.getD s [], Table.demand c m s x = some (codeLa c a, (certOf c fm m t).act s a) := by
  have key : ∀ col, col ≤ c.nT → s < m.states.length → (certOf c fm m t).act s a = t.action s col →
      ∃ x ∈ m.states.getD s [], Table.demand c m s x = some (col, (certOf c fm m t).act s a) := by
    intro col hcol hs e
    obtain ⟨st, x, hst, hx, hd⟩ := cells.justified s col hcol (e ▸ hne)
    rw [List.getElem?_eq_some_getD hs []] at hst
    cases hst
    exact ⟨x, hx, e ▸ hd⟩
  cases a with
  | none =>
    rw [act_none_certOf] at hne
    split at hne
    · rename_i hs
      exact ⟨hs, nofun, key c.nT (Nat.le_refl _) hs (by rw [act_none_certOf, if_pos hs])⟩
    · exact absurd rfl hne
  | some a' =>
    rw [act_some_certOf] at hne
    split at hne
    · rename_i hg
      exact ⟨hg.2, fun _ e => by cases e; exact hg.1,
        key a' (Nat.le_of_lt hg.1) hg.2 (by rw [act_some_certOf, if_pos hg])⟩
    · exact absurd rfl hne

theorem delta_of_done (ok : CtxOK c) (mok : MachineOK c fm m) (cells : Cells c m t) {s : Nat} (hs : s < m.states.length)
    {x : Item} (hx : x ∈ m.states.getD s []) {X : Sym Nat Nat} (hX : symRightOfDot c x = some X) :
    ∃ t', (certOf c fm m t).delta s X = some t' ∧ t' < m.states.length ∧
      (⟨s, t', X⟩ : Transition) ∈ m.transitions ∧
      ∀ y ∈ transitionItems c (m.states.getD s []) X, y ∈ m.states.getD t' [] := by
  obtain ⟨t', htr, hsub⟩ := mok.done s hs x hx X hX
  have hb := sym_bound ok hX
  refine ⟨t', ?_, (mok.trans _ htr).2.1, htr, hsub⟩
  cases X with
  | t a =>
    have := act_of_demand ok mok cells hs hx (demand_shift mok hs hx hX htr)
    rw [show decodeLa c a = some a from if_neg (Nat.ne_of_lt hb)] at this
    exact Valid.delta_t.mpr this
  | n b =>
    simp only [Cert.delta, goto_certOf, if_pos (And.intro hb hs)]
    exact cells.gotoOf _ htr b rfl

theorem delta_transition (cells : Cells c m t) {s t' : Nat} {X : Sym Nat Nat}
    (h : (certOf c fm m t).delta s X = some t') : s < m.states.length ∧ (⟨s, t', X⟩ : Transition) ∈ m.transitions := by
  cases X with
  | t a =>
    have hact := Valid.delta_t.mp h
    obtain ⟨hs, _, x, _, hd⟩ := demand_of_act (fm := fm) cells (a := some a) (by rw [hact]; nofun)
    rw [hact] at hd
    exact ⟨hs, getShiftDest_mem ((demand_want hd).2 _ rfl)⟩
  | n b =>
    simp only [Cert.delta, goto_certOf] at h
    split at h
    · rename_i hg
      exact ⟨hg.2, cells.gotoJust s b t' hg.1 h⟩
    · cases h

theorem itemB_ok (ok : CtxOK c) (hfb : FmBound c.nT fm) (mok : MachineOK c fm m) (cells : Cells c m t)
    {s : Nat} (hs : s < m.states.length) {x : Item} (hx : x ∈ m.states.getD s []) :
    Valid.itemB c.g (certOf c fm m t) s (decodeItem c x) = true := by
  have hgood := mok.good s hs
  have hwf := hgood.wf x hx
  have hd := demand_item mok hs hx
  refine Valid.itemB_iff.mpr ⟨rhsOf c x.rule, rhsOf_decode hwf.1, ?_⟩
  refine
    { dot := hwf.2.1
      startDot := fun e => mok.zero x (by rw [show s = m.start from e] at hx; exact hx)
      aug0 := fun hr hd => Classical.byContradiction fun e => ?_
      trans := fun X hX => ?_
      closure := fun B hX j rule' hj hl b hb => ?_
      reduce := fun j hr hX => ?_
      accept := fun hr hX hla => ?_
      closure0 := fun j rule hr hd hj => ?_ }
  · have := mok.aug s hs e x hx hd
    have : x.rule ≠ c.numRules := by omega
    rw [decode_rule_some this] at hr
    cases hr
  · obtain ⟨t', hdelta, _, _, hsub⟩ := delta_of_done ok mok cells hs hx hX
    exact ⟨t', hdelta, mem_items_of t' (hsub _ (mem_transitionItems.mpr ⟨x, hx, hX, rfl⟩))⟩
  · -- `x` implies the item the validator asks for
    obtain ⟨imp, himp⟩ := hgood.total x hx
    obtain ⟨las, haf, _⟩ := Option.map_eq_some_iff.mp ((impliedItems_n hX).symm.trans himp)
    obtain ⟨hin, hdec⟩ := firstSeq_in_las hfb
      (fun a ha => rhsOf_terminals ok.terms x.rule a (List.mem_of_mem_drop ha)) haf hb
    have := mem_items_of (c := c) (fm := fm) (t := t) s (hgood.closed x hx imp himp ⟨j, codeLa c b, 0⟩
      ((mem_impliedItems himp).mpr ⟨B, las, hX, haf, hin, mem_ruleIndicesFor.mpr ⟨rule', hj, hl⟩, rfl⟩))
    rwa [show decodeItem c ⟨j, codeLa c b, 0⟩ = ⟨some j, 0, b⟩ by
      simp only [decodeItem, if_neg (Nat.ne_of_lt (List.getElem?_eq_some_iff.mp hj).1 : j ≠ c.numRules)]
      exact congrArg _ hdec] at this
  · have hne : x.rule ≠ c.numRules := fun e => by rw [decode_rule_none e] at hr; cases hr
    rw [decode_rule_some hne] at hr
    cases hr
    rw [show symRightOfDot c x = none from hX] at hd
    exact act_of_demand ok mok cells hs hx (hd.trans (if_neg hne))
  · have he : x.rule = c.numRules := Classical.byContradiction fun e => by rw [decode_rule_some e] at hr; cases hr
    rw [show symRightOfDot c x = none from hX] at hd
    have := act_of_demand ok mok cells hs hx (hd.trans (if_pos he))
    rwa [show decodeLa c c.nT = none from if_pos rfl] at this
  · have hne : x.rule ≠ c.numRules := fun e => by rw [decode_rule_none e] at hr; cases hr
    rw [decode_rule_some hne] at hr
    cases hr
    rcases hgood.gen x hx hd with e | ⟨x0, hx0, imp, himp, hxi⟩
    · exact absurd (congrArg Item.rule e) hne
    · -- `x` is one of the items implied by `x0`
      obtain ⟨B, _, hB, _, _, hr, _⟩ := (mem_impliedItems himp).mp hxi
      obtain ⟨r, hr, hl⟩ := mem_ruleIndicesFor.mp hr
      cases hj.symm.trans hr
      exact ⟨decodeItem c x0, mem_items_of s hx0, rhsOf c x0.rule, rhsOf_decode (hgood.wf x0 hx0).1, hl ▸ hB⟩

-- `ok` is not needed: what the check asks of a transition follows from `MachineOK` and `Cells`
set_option linter.unusedVariables false in
theorem transB_ok (ok : CtxOK c) (mok : MachineOK c fm m) (cells : Cells c m t) (s : Nat) (X : Sym Nat Nat) :
    Valid.transB c.g (certOf c fm m t) s X = true := by
  refine Valid.transB_iff.mpr fun t' hdelta => ?_
  obtain ⟨hs, htr⟩ := delta_transition cells hdelta
  obtain ⟨_, ht', hne, hk⟩ := mok.trans _ htr
  refine ⟨hne, fun r d a hit => ?_⟩
  obtain ⟨y, hy, e⟩ := (items_certOf t' _).mp hit
  have hyd : y.dot = d + 1 := congrArg (·.dot) e
  obtain ⟨x, hx, r1, r2, r3⟩ := hk y hy (by omega)
  have hdx : decodeItem c x = ⟨r, d, decodeLa c x.la⟩ := by
    rw [← show (decodeItem c y).rule = r from congrArg (·.rule) e]
    simp only [decodeItem, r1, show x.dot = d by omega]; rfl
  refine ⟨rhsOf c x.rule, ?_, ?_, decodeLa c x.la, hdx ▸ mem_items_of s hx⟩
  · rw [← rhsOf_decode ((mok.good s hs).wf x hx).1, hdx]
  · rw [show d = x.dot by omega]; exact r3

theorem cellB_ok (ok : CtxOK c) (mok : MachineOK c fm m) (cells : Cells c m t) (s : Nat) (a : Option Nat) :
    Valid.cellB c.g (certOf c fm m t) s a = true := by
  refine Valid.cellB_iff.mpr ?_
  by_cases hne : (certOf c fm m t).act s a = .err
  · rw [hne]; trivial
  obtain ⟨hs, hb, x, hx, hd⟩ := demand_of_act cells hne
  have hwf := (mok.good s hs).wf x hx
  have hmem := mem_items_of (c := c) (fm := fm) (t := t) s hx
  rw [demand_item mok hs hx] at hd
  split at hd
  · -- a terminal right of the dot: a shift, on a terminal column
    rename_i a0 hX
    obtain ⟨d, _, e⟩ := Option.map_eq_some_iff.mp hd
    rw [Prod.mk.injEq] at e
    rw [← e.2]
    rintro rfl
    have := sym_bound ok hX
    simp only [codeLa] at e
    omega
  · cases hd
  · rename_i hX
    have hdot : x.dot = (rhsOf c x.rule).length := by
      have := List.getElem?_eq_none_iff.mp hX; have := hwf.2.1; omega
    split at hd
    · -- the completed augmented item: accept, on the end-of-input column
      rename_i he
      rw [Option.some.injEq, Prod.mk.injEq] at hd
      rw [← hd.2]
      have hlen : (rhsOf c x.rule).length = 1 := by unfold rhsOf; rw [if_pos he]; rfl
      refine ⟨?_, decodeLa c x.la, ?_⟩
      · cases a with
        | none => rfl
        | some a' => have := hb a' rfl; simp only [codeLa] at hd; omega
      · rwa [show decodeItem c x = ⟨none, 1, decodeLa c x.la⟩ by
          simp only [decodeItem, if_pos he, hdot, hlen]; rfl] at hmem
    · -- a completed original item: reduce
      rename_i hne'
      rw [Option.some.injEq, Prod.mk.injEq] at hd
      rw [← hd.2]
      have hlt : x.rule < c.g.rules.length := by have := hwf.1; unfold Ctx.numRules at this hne'; omega
      refine ⟨c.g.rules[x.rule], List.getElem?_eq_getElem hlt, decodeLa c x.la, ?_⟩
      rwa [show decodeItem c x = ⟨some x.rule, c.g.rules[x.rule].rhs.length, decodeLa c x.la⟩ by
        simp only [decodeItem, if_neg hne', hdot, rhsOf, List.getElem?_eq_getElem hlt]; rfl] at hmem

theorem checked_of_generator (ok : CtxOK c) (hfb : FmBound c.nT fm) (hfc : Valid.firstClosedB c.g (toTbl fm) = true)
    (mok : MachineOK c fm m) (cells : Cells c m t) : Valid.Checked c.g c.nN (certOf c fm m t) where
  alen := by simp [certOf]
  glen := by simp [certOf]
  grows := by
    intro row hrow
    simp only [certOf, List.mem_map, List.mem_range] at hrow
    obtain ⟨s, _, rfl⟩ := hrow
    simp
  first := hfc
  start := by
    have := mem_items_of (c := c) (fm := fm) (t := t) m.start mok.startItem
    have hdec : decodeItem c (startItem c) = ⟨none, 0, none⟩ := by
      unfold decodeItem startItem
      simp
    rw [hdec] at this
    exact this
  item := by
    intro s it hit
    obtain ⟨x, hx, rfl⟩ := (items_certOf s it).mp hit
    exact itemB_ok ok hfb mok cells (List.lt_length_of_mem_getD_nil hx) hx
  trans := fun s X _ _ => transB_ok ok mok cells s X
  cell := fun s a _ _ => cellB_ok ok mok cells s a

end Assemble
end KikiVerif
