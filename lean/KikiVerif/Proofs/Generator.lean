/-
`validated_ast_to_machine`, end to end: whenever it returns a machine, that machine satisfies `MachineOK` —
closed, well-formed states; kernel-backed, functional transitions; a transition (to a state holding the moved
items with their lookaheads) for every symbol right of a dot; the augmented item in the start state only.
-/
import KikiVerif.Proofs.Normalize

namespace KikiVerif
namespace Machine
open LR (Sym Rule Grammar)

structure MachineOK (c : Ctx) (fm : List FirstSet) (m : Machine) : Prop where
  startLt : m.start < m.states.length
  good : ∀ s, s < m.states.length → Good c fm (m.states.getD s [])
  startItem : startItem c ∈ m.states.getD m.start []
  zero : ∀ y ∈ m.states.getD m.start [], y.dot = 0
  aug : ∀ s, s < m.states.length → s ≠ m.start → ∀ y ∈ m.states.getD s [], y.dot = 0 → y.rule < c.numRules
  trans : ∀ t ∈ m.transitions, t.frm < m.states.length ∧ t.to < m.states.length ∧ t.to ≠ m.start ∧
    KernelOK c (m.states.getD t.frm []) (m.states.getD t.to []) t.sym
  func : ∀ t1 ∈ m.transitions, ∀ t2 ∈ m.transitions, t1.frm = t2.frm → t1.sym = t2.sym → t1.to = t2.to
  done : ∀ s, s < m.states.length → ∀ x ∈ m.states.getD s [], ∀ X, symRightOfDot c x = some X →
    ∃ t', (⟨s, t', X⟩ : Transition) ∈ m.transitions ∧
      ∀ y ∈ transitionItems c (m.states.getD s []) X, y ∈ m.states.getD t' []
  hasKernel : ∀ t ∈ m.transitions, ∃ y ∈ m.states.getD t.to [], 1 ≤ y.dot
  tnodup : m.transitions.Nodup
  inhabited : ∀ s, s < m.states.length → ∃ y, y ∈ m.states.getD s []
  distinct : ∀ s1 s2, s1 < m.states.length → s2 < m.states.length →
    SameCores (m.states.getD s1 []) (m.states.getD s2 []) → s1 = s2
  just : ∀ s, s < m.states.length → ∀ y ∈ m.states.getD s [], Deriv c fm m.start m.transitions s y
  zcore : ∀ y ∈ m.states.getD m.start [], CReach c fm (fun p => p = (c.numRules, 0)) (coreOf y)
  tcore : ∀ t ∈ m.transitions, ∀ y ∈ m.states.getD t.to [],
    CReach c fm (fun p => ∃ x ∈ transitionItems c (m.states.getD t.frm []) t.sym, coreOf x = p) (coreOf y)

theorem deriv_transport {c : Ctx} {fm : List FirstSet} {b : Builder} {m : Machine} (iso : Iso b m) {i : Nat} {y : Item}
    (h : Deriv c fm 0 b.transitions i y) : Deriv c fm (renum b 0) m.transitions (renum b i) y := by
  induction h with
  | start => exact .start
  | closure _ himp hyi ih => exact .closure ih himp hyi
  | goto _ hsym htr ih => exact .goto ih hsym ((iso.trans _).mpr ⟨_, htr, rfl⟩)

theorem machineOK_of_builder {c : Ctx} {fm : List FirstSet} {b : Builder} {m : Machine}
    (inv : BInv c fm (fun _ _ => False) b) (hq : b.queue = [])
    (h : normalize b = some m) : MachineOK c fm m := by
  have iso := normalize_iso h inv.nonempty fun i j hi hj e => inv.distinct i j hi hj (e ▸ SameCores.refl _)
  have h0 : m.states.getD m.start [] = b.states.getD 0 [] := by rw [iso.start, iso.state 0 inv.nonempty]
  have hjust : ∀ s, s < m.states.length → ∀ y ∈ m.states.getD s [], Deriv c fm m.start m.transitions s y := by
    intro s hs' y hy
    obtain ⟨i, hi, rfl⟩ := iso.surj s hs'
    rw [iso.state i hi] at hy
    exact iso.start ▸ deriv_transport iso (inv.just i hi y hy)
  refine
    { startLt := iso.start ▸ iso.lt 0 inv.nonempty
      good := ?_
      startItem := h0 ▸ inv.hasStart
      zero := h0 ▸ inv.zero
      aug := fun s hs' hne y hy hd => (hjust s hs' y hy).aug hne hd
      trans := ?_
      func := ?_
      done := ?_
      hasKernel := ?_
      tnodup := Oset.Sorted.nodup iso.tsorted
      inhabited := ?_
      distinct := ?_
      just := hjust
      zcore := h0 ▸ inv.zcore
      tcore := ?_ }
  · intro s hs'
    obtain ⟨i, hi, rfl⟩ := iso.surj s hs'
    rw [iso.state i hi]; exact inv.good i hi
  · intro t' ht'
    obtain ⟨t, ht, rfl⟩ := (iso.trans t').mp ht'
    have ok := inv.trans t ht
    refine ⟨iso.lt _ ok.frm, iso.lt _ ok.to, fun e => ?_, ?_⟩
    · exact ok.ne0 (iso.inj _ _ ok.to inv.nonempty (e.trans iso.start))
    · rw [iso.state _ ok.frm, iso.state _ ok.to]; exact ok.kernel
  · intro t1' h1 t2' h2 e1 e2
    obtain ⟨t1, ht1, rfl⟩ := (iso.trans t1').mp h1
    obtain ⟨t2, ht2, rfl⟩ := (iso.trans t2').mp h2
    have := iso.inj _ _ (inv.trans t1 ht1).frm (inv.trans t2 ht2).frm e1
    exact congrArg (renum b) (inv.func t1 ht1 t2 ht2 this e2)
  · intro s hs' x hx X hX
    obtain ⟨i, hi, rfl⟩ := iso.surj s hs'
    rw [iso.state i hi] at hx ⊢
    obtain ⟨j, hj, hsub⟩ := (inv.done i hi (by simp [hq]) X ⟨x, hx, hX⟩).resolve_left id
    refine ⟨renum b j, (iso.trans _).mpr ⟨_, hj, rfl⟩, ?_⟩
    rw [iso.state j (inv.trans _ hj).to]
    exact hsub
  · intro t' ht'
    obtain ⟨t, ht, rfl⟩ := (iso.trans t').mp ht'
    rw [iso.state _ (inv.trans t ht).to]
    exact (inv.trans t ht).hasKernel
  · intro s hs'
    obtain ⟨i, hi, rfl⟩ := iso.surj s hs'
    rw [iso.state i hi]
    exact inv.inhabited i hi
  · intro s1 s2 h1 h2 hsc
    obtain ⟨i1, hi1, rfl⟩ := iso.surj s1 h1
    obtain ⟨i2, hi2, rfl⟩ := iso.surj s2 h2
    rw [iso.state i1 hi1, iso.state i2 hi2] at hsc
    rw [inv.distinct i1 i2 hi1 hi2 hsc]
  · intro t' ht' y hy
    obtain ⟨t, ht, rfl⟩ := (iso.trans t').mp ht'
    have ok := inv.trans t ht
    rw [iso.state _ ok.to] at hy
    rw [iso.state _ ok.frm]
    exact (inv.tcore t ht (coreOf y)).mp ⟨y, hy, rfl⟩

theorem deriv_mem {c : Ctx} {fm : List FirstSet} {m : Machine} (mok : MachineOK c fm m) {s : Nat} {y : Item}
    (h : Deriv c fm m.start m.transitions s y) : s < m.states.length ∧ y ∈ m.states.getD s [] := by
  induction h with
  | start => exact ⟨mok.startLt, mok.startItem⟩
  | closure _ himp hyi ih => exact ⟨ih.1, (mok.good _ ih.1).closed _ ih.2 _ himp _ hyi⟩
  | @goto s t x X _ hsym htr ih =>
    obtain ⟨t', htr', hsub⟩ := mok.done s ih.1 x ih.2 X hsym
    have hto : t' = t := mok.func _ htr' _ htr rfl rfl
    subst hto
    exact ⟨(mok.trans _ htr).2.1, hsub _ (mem_transitionItems.mpr ⟨x, ih.2, hsym, rfl⟩)⟩

/-- **the item sets of the generated machine, lookaheads included, are exactly what the LALR(1) propagation
rules generate** over the machine's own transition graph (least fixed point: start item, closure with
`FIRST(β a)` lookaheads, moving the dot along transitions — contributions of all predecessor states united) -/
theorem items_exact {c : Ctx} {fm : List FirstSet} {m : Machine} (mok : MachineOK c fm m) (s : Nat) (y : Item) :
    (s < m.states.length ∧ y ∈ m.states.getD s []) ↔ Deriv c fm m.start m.transitions s y :=
  ⟨fun h => mok.just s h.1 y h.2, deriv_mem mok⟩

/-- **the automaton builder, every grammar**: whenever `validated_ast_to_machine` returns a machine, it is a
well-formed LALR-style automaton in the sense of `MachineOK`, w.r.t. a FIRST table that is closed under the
FIRST equations -/
theorem machineOf_ok {c : Ctx} (hwf : CtxWF c) {fuel : Nat} {m : Machine} (h : machineOf c fuel = some (some m)) :
    ∃ fm, firstSets c fuel = some (some fm) ∧ MachineOK c fm m := by
  unfold machineOf at h
  split at h
  · cases h
  · cases h
  · rename_i fm hfm
    refine ⟨fm, hfm, ?_⟩
    have hfb := firstSets_bound hwf hfm
    split at h
    · cases h
    · cases h
    · rename_i start hstart
      have inv0 := initial_inv hwf hfb hstart
      split at h
      · cases h
      · cases h
      · rename_i b hb
        obtain ⟨inv, hq⟩ := buildLoop_spec hwf hfb _ _ _ inv0 hb
        simp only [Option.some.injEq] at h
        exact machineOK_of_builder inv hq h

end Machine
end KikiVerif
