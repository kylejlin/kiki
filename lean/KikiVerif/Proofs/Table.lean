/-
`machine_to_table`: what the two builder maps hold, and what a conflict report means.  One invariant (`Acts`) is
carried through `add_item_action_to_table` (`Acts.step`) and through the two loops around it (`Outcome.seq`).
-/
import KikiVerif.Proofs.Want
import KikiVerif.Proofs.Basic

namespace KikiVerif
namespace Table
open Machine
open LR (Sym Action)

/-- the parser action an item of state `s` demands, and the lookahead column it demands it on:
accept on end of input for the completed augmented item, reduce on the item's lookahead for a completed
original item, shift on the terminal after the dot -/
def demand (c : Ctx) (m : Machine) (s : Nat) (it : Item) : Option (Nat × Action) :=
  if it.rule = c.numRules then
    if it.dot = 0 then none else some (c.nT, .accept)
  else
    match c.g.rules[it.rule]? with
    | none => none
    | some r =>
      if it.dot = r.rhs.length then some (it.la, .reduce it.rule)
      else match r.rhs[it.dot]? with
        | some (.t t) => (getShiftDest m s t).map fun dest => (t, .shift dest)
        | _ => none

end Table

namespace Machine
open Table
open LR (Sym Action)

/-- the action that fulfils a want in state `s`: a shift needs its destination -/
def actOf (m : Machine) (s : Nat) : Nat × Want → Option (Nat × Action)
  | (col, .shift) => (getShiftDest m s col).map fun d => (col, .shift d)
  | (col, .reduce r) => some (col, .reduce r)
  | (col, .accept) => some (col, .accept)
  | (_, .err) => none

variable {c : Ctx} {m : Machine}

theorem demand_eq (s : Nat) (it : Item) : demand c m s it = (want c it).bind (actOf m s) := by
  unfold demand want
  split
  · split <;> rfl
  · cases c.g.rules[it.rule]? with
    | none => rfl
    | some r =>
      simp only
      split
      · rfl
      · cases r.rhs[it.dot]? with
        | none => rfl
        | some X => cases X <;> rfl

theorem actOf_eq_some {s : Nat} {cw : Nat × Want} {col : Nat} {a : Action} (h : actOf m s cw = some (col, a)) :
    cw = (col, kindOf a) ∧ ∀ d, a = .shift d → getShiftDest m s col = some d := by
  obtain ⟨col', w⟩ := cw
  cases w <;> simp [actOf] at h
  · obtain ⟨d, hd, rfl, rfl⟩ := h; exact ⟨rfl, fun d' e => by cases e; exact hd⟩
  all_goals obtain ⟨rfl, rfl⟩ := h; exact ⟨rfl, fun d' e => by cases e⟩

theorem demand_want {s : Nat} {it : Item} {col : Nat} {a : Action} (h : demand c m s it = some (col, a)) :
    want c it = some (col, kindOf a) ∧ (∀ d, a = .shift d → getShiftDest m s col = some d) := by
  rw [demand_eq, Option.bind_eq_some_iff] at h
  obtain ⟨cw, hw, ha⟩ := h
  obtain ⟨rfl, hd⟩ := actOf_eq_some ha
  exact ⟨hw, hd⟩

end Machine

namespace Table
open Machine
open LR (Sym Action)

variable {c : Ctx} {m : Machine}

theorem getShiftDest_mem {s a d : Nat} (h : getShiftDest m s a = some d) :
    (⟨s, d, .t a⟩ : Transition) ∈ m.transitions := by
  obtain ⟨⟨f, d', X⟩, hf, rfl⟩ := Option.map_eq_some_iff.mp h
  have hp := List.find?_some hf
  simp only [Bool.and_eq_true, beq_iff_eq] at hp
  obtain ⟨rfl, rfl⟩ := hp
  exact List.mem_of_find?_eq_some hf

theorem getShiftDest_of_mem {s a d : Nat}
    (func : ∀ t1 ∈ m.transitions, ∀ t2 ∈ m.transitions, t1.frm = t2.frm → t1.sym = t2.sym → t1.to = t2.to)
    (h : (⟨s, d, .t a⟩ : Transition) ∈ m.transitions) : getShiftDest m s a = some d := by
  cases hg : getShiftDest m s a with
  | some d' => exact congrArg some (func _ (getShiftDest_mem hg) _ h rfl rfl)
  | none =>
    have := List.find?_eq_none.mp (Option.map_eq_none_iff.mp hg) _ h
    simp at this

/-- `add_item_action_to_table` calls `set_action` with the item's demand if it has one; it panics only on a rule
index, a dot or a shift without destination that a state of the automaton cannot hold -/
theorem addItemAction_cases (tb : TB) (s : Nat) (it : Item) :
    (addItemAction c m tb s it = match demand c m s it with
      | none => .ok tb
      | some (col, a) => setAction tb s col it a) ∨
    ((∃ site, addItemAction c m tb s it = .panic site) ∧ it.rule ≠ c.numRules ∧
      ∀ r, c.g.rules[it.rule]? = some r → it.dot ≠ r.rhs.length ∧
        ∀ X, r.rhs[it.dot]? = some X → ∃ a, X = .t a ∧ getShiftDest m s a = none) := by
  unfold addItemAction demand
  split
  · split <;> exact Or.inl rfl
  · rename_i hne
    cases hr : c.g.rules[it.rule]? with
    | none => exact Or.inr ⟨⟨_, rfl⟩, hne, nofun⟩
    | some r =>
      dsimp only
      split
      · exact Or.inl rfl
      · rename_i hd
        cases hX : r.rhs[it.dot]? with
        | none => exact Or.inr ⟨⟨_, rfl⟩, hne, fun _ e => by cases e; exact ⟨hd, fun _ e => by rw [hX] at e; cases e⟩⟩
        | some X =>
          cases X with
          | n _ => exact Or.inl rfl
          | t a =>
            dsimp only
            cases hg : getShiftDest m s a with
            | some d => exact Or.inl rfl
            | none =>
              refine Or.inr ⟨⟨_, rfl⟩, hne, fun _ e => ?_⟩
              cases e
              exact ⟨hd, fun _ e => by rw [hX] at e; cases e; exact ⟨a, rfl, hg⟩⟩

theorem setAction_ne_panic (tb : TB) (s col : Nat) (it : Item) (a : Action) (site : String) :
    setAction tb s col it a ≠ .panic site := by
  unfold setAction
  split
  · split <;> nofun
  · nofun

theorem addItemAction_ne_panic (tb : TB) {s : Nat} {it : Item} (h1 : it.rule ≤ c.numRules)
    (h2 : it.dot ≤ (rhsOf c it.rule).length)
    (h3 : ∀ a, symRightOfDot c it = some (.t a) → ∃ d, getShiftDest m s a = some d) (site : String) :
    addItemAction c m tb s it ≠ .panic site := by
  rcases addItemAction_cases (c := c) (m := m) tb s it with heq | ⟨_, hne, hst⟩
  · rw [heq]
    split
    · nofun
    · exact setAction_ne_panic _ _ _ _ _ _
  · have hlt : it.rule < c.g.rules.length := by unfold Ctx.numRules at h1 hne; omega
    obtain ⟨hdl, hX⟩ := hst _ (List.getElem?_eq_getElem hlt)
    have hrhs : rhsOf c it.rule = c.g.rules[it.rule].rhs := by
      unfold rhsOf; rw [if_neg hne, List.getElem?_eq_getElem hlt]
    have hd : it.dot < c.g.rules[it.rule].rhs.length := by rw [hrhs] at h2; omega
    obtain ⟨a, hXa, hg⟩ := hX _ (List.getElem?_eq_getElem hd)
    obtain ⟨d, hd'⟩ := h3 a (by unfold symRightOfDot; rw [hrhs, List.getElem?_eq_getElem hd, hXa])
    rw [hg] at hd'
    cases hd'

def Clash (c : Ctx) (m : Machine) (s : Nat) (e n : Item) : Prop :=
  ∃ col ae an, demand c m s e = some (col, ae) ∧ demand c m s n = some (col, an) ∧ ae ≠ an

/-- what a conflict report says -/
def Genuine (c : Ctx) (m : Machine) (s : Nat) (e n : Item) : Prop :=
  (∃ st, m.states[s]? = some st ∧ e ∈ st ∧ n ∈ st) ∧
  ∃ col ae an, demand c m s e = some (col, ae) ∧ demand c m s n = some (col, an) ∧ ae ≠ an

/-- the action map once the (state, item) pairs `done` have been processed: one entry per key, every entry the
demand of a processed item, every demand of a processed item entered (under the item that came first) -/
structure Acts (c : Ctx) (m : Machine) (done : List (Nat × Item)) (tb : TB) : Prop where
  keys : (tb.actions.map (·.1)).Nodup
  filled : ∀ s col it a, ((s, col), (it, a)) ∈ tb.actions → (s, it) ∈ done ∧ demand c m s it = some (col, a)
  recorded : ∀ s it, (s, it) ∈ done → ∀ col a, demand c m s it = some (col, a) → ∃ e, ((s, col), (e, a)) ∈ tb.actions

/-- what processing the pairs `todo` after `done` may end in -/
def Outcome (c : Ctx) (m : Machine) (done : List (Nat × Item)) (tb : TB) (todo : List (Nat × Item)) : TRes TB → Prop
  | .ok tb' => Acts c m (done ++ todo) tb' ∧ tb'.gotos = tb.gotos
  | .conflict s e n => (s, e) ∈ done ++ todo ∧ (s, n) ∈ done ++ todo ∧ Clash c m s e n
  | .panic site => ∃ p ∈ todo, ∃ tb, addItemAction c m tb p.1 p.2 = .panic site

theorem Acts.snoc {done : List (Nat × Item)} {tb : TB} (h : Acts c m done tb) {s : Nat} {it : Item}
    (hrec : ∀ col a, demand c m s it = some (col, a) → ∃ e, ((s, col), (e, a)) ∈ tb.actions) :
    Acts c m (done ++ [(s, it)]) tb := by
  refine ⟨h.keys, fun s' col it' a hm => ⟨List.mem_append_left _ (h.filled _ _ _ _ hm).1, (h.filled _ _ _ _ hm).2⟩, ?_⟩
  intro s' it' hm
  rcases List.mem_append.mp hm with hm | hm
  · exact h.recorded _ _ hm
  · cases List.mem_singleton.mp hm; exact hrec

theorem Acts.step {done : List (Nat × Item)} {tb : TB} (h : Acts c m done tb) (s : Nat) (it : Item) :
    Outcome c m done tb [(s, it)] (addItemAction c m tb s it) := by
  rcases addItemAction_cases (c := c) (m := m) tb s it with heq | ⟨⟨site, hp⟩, _⟩
  case inr => rw [hp]; exact ⟨_, List.mem_singleton.mpr rfl, tb, hp⟩
  rw [heq]
  cases hd : demand c m s it with
  | none => exact ⟨h.snoc (by rw [hd]; nofun), rfl⟩
  | some p =>
    obtain ⟨col, a⟩ := p
    dsimp only
    unfold setAction
    cases hl : tb.actions.lookup (s, col) with
    | none =>
      -- a new key: the entry is appended
      have new : ((s, col), (it, a)) ∈ tb.actions ++ [((s, col), (it, a))] :=
        List.mem_append_right _ (List.mem_singleton.mpr rfl)
      refine ⟨⟨?_, ?_, ?_⟩, rfl⟩
      · rw [List.map_append]
        exact h.keys.append_singleton (List.not_mem_keys_of_lookup_eq_none hl)
      · intro s' col' it' a' hm
        rcases List.mem_append.mp hm with hm | hm
        · exact ⟨List.mem_append_left _ (h.filled _ _ _ _ hm).1, (h.filled _ _ _ _ hm).2⟩
        · cases List.mem_singleton.mp hm; exact ⟨List.mem_append_right _ (List.mem_singleton.mpr rfl), hd⟩
      · intro s' it' hm col' a' hd'
        rcases List.mem_append.mp hm with hm | hm
        · obtain ⟨e, he⟩ := h.recorded _ _ hm _ _ hd'
          exact ⟨e, List.mem_append_left _ he⟩
        · cases List.mem_singleton.mp hm; rw [hd] at hd'; cases hd'
          exact ⟨it, new⟩
    | some ea =>
      obtain ⟨e, ea⟩ := ea
      have he := h.filled _ _ _ _ (List.mem_of_lookup_eq_some hl)
      dsimp only
      split
      · rename_i heq; subst heq
        exact ⟨h.snoc (by rw [hd]; rintro _ _ ⟨⟩; exact ⟨e, List.mem_of_lookup_eq_some hl⟩), rfl⟩
      · rename_i hne
        exact ⟨List.mem_append_left _ he.1, List.mem_append_right _ (List.mem_singleton.mpr rfl), col, ea, a, he.2, hd, hne⟩

/-- the outcomes of two stretches of work compose the way `add_state_actions_to_table` and
`add_actions_to_table` chain their calls: stop at the first conflict or panic -/
theorem Outcome.seq {done t1 t2 : List (Nat × Item)} {tb : TB} {r : TRes TB} {k : TB → TRes TB}
    (h1 : Outcome c m done tb t1 r) (h2 : ∀ tb1, Acts c m (done ++ t1) tb1 → Outcome c m (done ++ t1) tb1 t2 (k tb1)) :
    Outcome c m done tb (t1 ++ t2)
      (match (generalizing := false) r with
        | .ok tb' => k tb' | .conflict s a b => .conflict s a b | .panic s => .panic s) := by
  have hmem : ∀ {p}, p ∈ done ++ t1 → p ∈ done ++ (t1 ++ t2) := fun hp => by
    rw [← List.append_assoc]; exact List.mem_append_left _ hp
  cases r with
  | conflict s e n => exact ⟨hmem h1.1, hmem h1.2.1, h1.2.2⟩
  | panic site => obtain ⟨p, hp, h⟩ := h1; exact ⟨p, List.mem_append_left _ hp, h⟩
  | ok tb1 =>
    have := h2 tb1 h1.1
    dsimp only
    generalize k tb1 = r2 at this
    cases r2 with
    | conflict s e n => simpa only [Outcome, List.append_assoc] using this
    | panic site => obtain ⟨p, hp, h⟩ := this; exact ⟨p, List.mem_append_right _ hp, h⟩
    | ok tb2 => exact ⟨by simpa only [List.append_assoc] using this.1, this.2.trans h1.2⟩

theorem addStateActions_spec (s : Nat) : ∀ (items : List Item) (done : List (Nat × Item)) (tb : TB),
    Acts c m done tb → Outcome c m done tb (items.map (s, ·)) (addStateActions c m s items tb) := by
  intro items
  induction items with
  | nil => intro done tb h; exact ⟨by simpa using h, rfl⟩
  | cons it items ih => intro done tb h; exact (h.step s it).seq fun tb1 h1 => ih _ tb1 h1

def pairs (sts : List State) (i : Nat) : List (Nat × Item) := (sts.zipIdx i).flatMap fun p => p.1.map (p.2, ·)

theorem addActions_spec : ∀ (sts : List State) (i : Nat) (done : List (Nat × Item)) (tb : TB),
    Acts c m done tb → Outcome c m done tb (pairs sts i) (addActions c m sts i tb) := by
  intro sts
  induction sts with
  | nil => intro i done tb h; exact ⟨by simpa [pairs] using h, rfl⟩
  | cons st sts ih => intro i done tb h; exact (addStateActions_spec i st done tb h).seq fun tb1 h1 => ih _ _ tb1 h1

theorem mem_pairs {sts : List State} {s : Nat} {it : Item} :
    (s, it) ∈ pairs sts 0 ↔ ∃ st, sts[s]? = some st ∧ it ∈ st := by
  simp [pairs, List.mem_flatMap, List.mk_mem_zipIdx_iff_getElem?]

def gotoEntries (trs : List Transition) : List ((Nat × Nat) × Nat) :=
  trs.filterMap fun tr => match tr.sym with
    | .n b => some ((tr.frm, b), tr.to)
    | .t _ => none

theorem addGotos_no_conflict : ∀ (trs : List Transition) (tb : TB) (s : Nat) (e n : Item),
    addGotos trs tb ≠ .conflict s e n := by
  intro trs
  induction trs with
  | nil => intro tb s e n h; cases h
  | cons tr trs ih =>
    intro tb s e n h
    simp only [addGotos] at h
    split at h
    · exact ih _ _ _ _ h
    · split at h
      · cases h
      · exact ih _ _ _ _ h

theorem addGotos_eq_ok : ∀ (trs : List Transition) (tb tb' : TB), (tb.gotos.map (·.1)).Nodup →
    (addGotos trs tb = .ok tb' ↔
      ((tb.gotos ++ gotoEntries trs).map (·.1)).Nodup ∧ tb' = ⟨tb.actions, tb.gotos ++ gotoEntries trs⟩) := by
  intro trs
  induction trs with
  | nil =>
    intro tb tb' hnd
    rw [show gotoEntries [] = [] from rfl, List.append_nil]
    exact ⟨fun h => by cases h; exact ⟨hnd, rfl⟩, fun h => by rw [h.2]; rfl⟩
  | cons tr trs ih =>
    intro tb tb' hnd
    have hcons : gotoEntries (tr :: trs) = match tr.sym with
        | .n b => ((tr.frm, b), tr.to) :: gotoEntries trs
        | .t _ => gotoEntries trs := by
      unfold gotoEntries; rw [List.filterMap_cons]; cases tr.sym <;> rfl
    rw [hcons, addGotos]
    cases tr.sym with
    | t _ => exact ih tb tb' hnd
    | n b =>
      dsimp only
      cases hl : tb.gotos.lookup (tr.frm, b) with
      | some g =>
        refine ⟨nofun, fun h => ?_⟩
        rw [List.map_append, List.nodup_append] at h
        exact absurd rfl (h.1.2.2 _ (List.mem_map_of_mem (List.mem_of_lookup_eq_some hl)) _ List.mem_cons_self)
      | none =>
        have := ih ⟨tb.actions, tb.gotos ++ [((tr.frm, b), tr.to)]⟩ tb'
          (by rw [List.map_append]; exact hnd.append_singleton (List.not_mem_keys_of_lookup_eq_none hl))
        rwa [List.append_assoc, List.singleton_append] at this

theorem actions_outcome (c : Ctx) (m : Machine) :
    Outcome c m [] ⟨[], []⟩ (pairs m.states 0) (addActions c m m.states 0 ⟨[], []⟩) :=
  addActions_spec _ _ _ _ ⟨List.nodup_nil, nofun, nofun⟩

theorem machineToTable_eq_ok {t : Table} : machineToTable c m = .ok t ↔
    ∃ tb, addActions c m m.states 0 ⟨[], []⟩ = .ok tb ∧ ((gotoEntries m.transitions).map (·.1)).Nodup ∧
      buildAsIs (emptyTable c m) tb.actions (gotoEntries m.transitions) = some t := by
  have out := actions_outcome c m
  unfold machineToTable
  cases hres : addActions c m m.states 0 ⟨[], []⟩ with
  | conflict s e n => simp
  | panic site => simp
  | ok tb =>
    rw [hres] at out
    have hg := fun tb' => addGotos_eq_ok m.transitions tb tb' (by rw [out.2]; exact List.nodup_nil)
    simp only [out.2, List.nil_append] at hg
    dsimp only
    cases hres2 : addGotos m.transitions tb with
    | conflict s e n => exact absurd hres2 (addGotos_no_conflict _ _ _ _ _)
    | panic site => simpa using fun h => by simpa [hres2] using (hg _).mpr ⟨h, rfl⟩
    | ok tb' =>
      obtain ⟨hnd, rfl⟩ := (hg tb').mp hres2
      dsimp only
      cases hb : buildAsIs (emptyTable c m) tb.actions (gotoEntries m.transitions) <;> simp [hnd, hb]

/-- **C11**: a table-conflict report names a state of the automaton, two items of that state, and the two
items demand different parser actions on the same lookahead column -/
theorem conflict_genuine (c : Ctx) (m : Machine) (s : Nat) (e n : Item)
    (h : machineToTable c m = .conflict s e n) : Genuine c m s e n := by
  have out := actions_outcome c m
  unfold machineToTable at h
  cases hres : addActions c m m.states 0 ⟨[], []⟩ with
  | conflict s' e' n' =>
    rw [hres] at h out
    cases h
    obtain ⟨he, hn, hc⟩ := out
    obtain ⟨st, hst, he⟩ := mem_pairs.mp he
    obtain ⟨st', hst', hn⟩ := mem_pairs.mp hn
    cases hst.symm.trans hst'
    exact ⟨⟨st, hst, he, hn⟩, hc⟩
  | panic site => rw [hres] at h; cases h
  | ok tb =>
    rw [hres] at h
    dsimp only at h
    cases hg : addGotos m.transitions tb with
    | conflict s' e' n' => exact absurd hg (addGotos_no_conflict _ _ _ _ _)
    | panic site => rw [hg] at h; cases h
    | ok tb' => rw [hg] at h; dsimp only at h; split at h <;> cases h

/-- **C04 (at the level of the automaton)**: if `machine_to_table` succeeds then no state has two items that
demand different actions on the same lookahead column -/
theorem ok_conflict_free (c : Ctx) (m : Machine) (t : Table) (h : machineToTable c m = .ok t) :
    ¬ ∃ s e n, Genuine c m s e n := by
  rintro ⟨s, e, n, ⟨st, hst, he, hn⟩, col, ae, an, hde, hdn, hne⟩
  obtain ⟨tb, hres, _⟩ := machineToTable_eq_ok.mp h
  have out := actions_outcome c m
  rw [hres] at out
  obtain ⟨e1, he1⟩ := out.1.recorded s e (mem_pairs.mpr ⟨st, hst, he⟩) col ae hde
  obtain ⟨e2, he2⟩ := out.1.recorded s n (mem_pairs.mpr ⟨st, hst, hn⟩) col an hdn
  cases List.eq_of_nodup_keys out.1.keys he1 he2 rfl
  exact hne rfl

end Table
end KikiVerif
