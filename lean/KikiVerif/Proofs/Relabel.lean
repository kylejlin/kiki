/-
C16 downstream of the tokenizer: a byte position is stored in a token by the tokenizer and only ever *copied*
afterwards.  So the front end is natural in the positions: on tokens relabelled by `ρ : Nat → Nat` it returns the
relabelled CST, AST, validated file or error; after validation nothing looks at a position.
-/
import KikiVerif.Model.FrontParse
import KikiVerif.Model.Validate
import KikiVerif.Model.Encode
import KikiVerif.Model.Emit

namespace KikiVerif
namespace Relabel
open LR FrontParse

variable (ρ : Nat → Nat)

def tokenMap : Token → Token
  | .underscore p => .underscore (ρ p)
  | .ident n p => .ident n (ρ p)
  | .termIdent n p => .termIdent n (ρ p)
  | .attr s p => .attr s (ρ p)
  | .startKw p => .startKw (ρ p)
  | .structKw p => .structKw (ρ p)
  | .enumKw p => .enumKw (ρ p)
  | .terminalKw p => .terminalKw (ρ p)
  | .colon p => .colon (ρ p)
  | .dcolon p => .dcolon (ρ p)
  | .comma p => .comma (ρ p)
  | .lparen p => .lparen (ρ p)
  | .rparen p => .rparen (ρ p)
  | .lcurly p => .lcurly (ρ p)
  | .rcurly p => .rcurly (ρ p)
  | .langle p => .langle (ρ p)
  | .rangle p => .rangle (ρ p)

def leafMap (t : FTok) : FTok := ⟨t.kind, tokenMap ρ t.payload⟩

theorem mkTok_map (t : Token) : mkTok (tokenMap ρ t) = leafMap ρ (mkTok t) := by cases t <;> rfl

mutual
def treeMap : CTree → CTree
  | .leaf t => .leaf (leafMap ρ t)
  | .node r cs => .node r (treeMapL cs)
def treeMapL : List CTree → List CTree
  | [] => []
  | c :: cs => treeMap c :: treeMapL cs
end

theorem treeMapL_eq (cs : List CTree) : treeMapL ρ cs = cs.map (treeMap ρ) := by
  induction cs with
  | nil => rfl
  | cons c cs ih => simp [treeMapL, ih]

def identMap (i : Ast.Ident) : Ast.Ident := ⟨i.name, ρ i.pos⟩
def termIdentMap (i : Ast.TermIdent) : Ast.TermIdent := ⟨i.name, ρ i.dpos⟩
def attrMap (a : Ast.Attr) : Ast.Attr := ⟨a.src, ρ a.pos⟩
def symIdMap : Ast.SymId → Ast.SymId
  | .n i => .n (identMap ρ i)
  | .t i => .t (termIdentMap ρ i)
def fieldNameMap : Ast.FieldName → Ast.FieldName
  | .id i => .id (identMap ρ i)
  | .us p => .us (ρ p)
def namedFieldMap (f : Ast.NamedField) : Ast.NamedField := ⟨fieldNameMap ρ f.name, symIdMap ρ f.sym⟩
def tupleFieldMap : Ast.TupleField → Ast.TupleField
  | .used s => .used (symIdMap ρ s)
  | .skipped s => .skipped (symIdMap ρ s)
def fieldsetMap : Ast.Fieldset → Ast.Fieldset
  | .empty => .empty
  | .named fs => .named (fs.map (namedFieldMap ρ))
  | .tuple fs => .tuple (fs.map (tupleFieldMap ρ))
mutual
def tyMap : Ast.Ty → Ast.Ty
  | .unit => .unit
  | .path p => .path (p.map (identMap ρ))
  | .complex callee args => .complex (callee.map (identMap ρ)) (tysMap args)
def tysMap : List Ast.Ty → List Ast.Ty
  | [] => []
  | t :: ts => tyMap t :: tysMap ts
end
def structMap (s : Ast.Struct) : Ast.Struct := ⟨s.attrs.map (attrMap ρ), identMap ρ s.name, fieldsetMap ρ s.fieldset⟩
def variantMap (v : Ast.Variant) : Ast.Variant := ⟨identMap ρ v.name, fieldsetMap ρ v.fieldset⟩
def enumMap (e : Ast.Enum) : Ast.Enum := ⟨e.attrs.map (attrMap ρ), identMap ρ e.name, e.variants.map (variantMap ρ)⟩
def termVariantMap (v : Ast.TermVariant) : Ast.TermVariant := ⟨termIdentMap ρ v.name, tyMap ρ v.ty⟩
def termEnumMap (t : Ast.TermEnum) : Ast.TermEnum :=
  ⟨t.attrs.map (attrMap ρ), identMap ρ t.name, t.variants.map (termVariantMap ρ)⟩
def itemMap : Ast.Item → Ast.Item
  | .start i => .start (identMap ρ i)
  | .struct s => .struct (structMap ρ s)
  | .enum e => .enum (enumMap ρ e)
  | .terminal t => .terminal (termEnumMap ρ t)
def fileMap (f : Ast.File) : Ast.File := ⟨f.items.map (itemMap ρ)⟩

@[simp] theorem fileMap_items (f : Ast.File) : (fileMap ρ f).items = f.items.map (itemMap ρ) := rfl

theorem tysMap_eq (ts : List Ast.Ty) : tysMap ρ ts = ts.map (tyMap ρ) := by
  induction ts with
  | nil => rfl
  | cons t ts ih => simp [tysMap, ih]

/-- `a'` succeeds with the image under `m` of whatever `a` succeeds with.  The functions of `cst_to_ast` are built
from `bind`, `map` and `some`; so are the proofs that relabelling the tree lifts them. -/
def Lifts {α β : Type} (m : α → β) (a : Option α) (a' : Option β) : Prop := ∀ v, a = some v → a' = some (m v)

theorem Lifts.none {α β : Type} {m : α → β} {a' : Option β} : Lifts m none a' := nofun

theorem Lifts.some {α β : Type} {m : α → β} {x : α} {y : β} (h : m x = y) : Lifts m (some x) (some y) := by
  rintro _ ⟨⟩; rw [h]

theorem Lifts.bind {α β α' β' : Type} {m : α → β} {m' : α' → β'} {a a'} {k : α → Option α'} {k' : β → Option β'}
    (h : Lifts m a a') (hk : ∀ x, Lifts m' (k x) (k' (m x))) : Lifts m' (a.bind k) (a'.bind k') := by
  intro v hv
  obtain ⟨x, rfl, hx⟩ := Option.bind_eq_some_iff.mp hv
  rw [h x rfl]; exact hk x v hx

theorem Lifts.map {α β α' β' : Type} {m : α → β} {m' : α' → β'} {a a'} {k : α → α'} {k' : β → β'}
    (h : Lifts m a a') (hk : ∀ x, m' (k x) = k' (m x)) : Lifts m' (a.map k) (a'.map k') := by
  intro v hv
  obtain ⟨x, rfl, rfl⟩ := Option.map_eq_some_iff.mp hv
  rw [h x rfl, hk]; rfl

theorem identOf_map (t : CTree) : Lifts (identMap ρ) (identOf t) (identOf (treeMap ρ t)) := by
  fun_cases identOf t
  · exact .some rfl
  · exact .none

theorem termIdentOf_map (t : CTree) : Lifts (termIdentMap ρ) (termIdentOf t) (termIdentOf (treeMap ρ t)) := by
  fun_cases termIdentOf t
  · exact .some rfl
  · exact .none

theorem attrOf_map (t : CTree) : Lifts (attrMap ρ) (attrOf t) (attrOf (treeMap ρ t)) := by
  fun_cases attrOf t
  · exact .some rfl
  · exact .none

theorem symIdOf_map (t : CTree) : Lifts (symIdMap ρ) (symIdOf t) (symIdOf (treeMap ρ t)) := by
  fun_cases symIdOf t
  · exact .map (identOf_map ρ _) fun _ => rfl
  · exact .map (termIdentOf_map ρ _) fun _ => rfl
  · exact .none

theorem fieldNameOf_map (t : CTree) : Lifts (fieldNameMap ρ) (fieldNameOf t) (fieldNameOf (treeMap ρ t)) := by
  fun_cases fieldNameOf t
  · exact .map (identOf_map ρ _) fun _ => rfl
  · exact .some rfl
  · exact .none

theorem namedFieldOf_map (t : CTree) : Lifts (namedFieldMap ρ) (namedFieldOf t) (namedFieldOf (treeMap ρ t)) := by
  fun_cases namedFieldOf t
  · exact .bind (fieldNameOf_map ρ _) fun _ => .bind (symIdOf_map ρ _) fun _ => .some rfl
  · exact .none

theorem namedFieldsOf_map (t : CTree) :
    Lifts (List.map (namedFieldMap ρ)) (namedFieldsOf t) (namedFieldsOf (treeMap ρ t)) := by
  fun_induction namedFieldsOf t with
  | case1 f => exact .map (namedFieldOf_map ρ f) fun _ => rfl
  | case2 l r ih => exact .bind ih fun _ => .bind (namedFieldOf_map ρ r) fun _ => .some (by simp)
  | case3 => exact .none

theorem tupleFieldOf_map (t : CTree) : Lifts (tupleFieldMap ρ) (tupleFieldOf t) (tupleFieldOf (treeMap ρ t)) := by
  fun_cases tupleFieldOf t
  · exact .map (symIdOf_map ρ _) fun _ => rfl
  · exact .map (symIdOf_map ρ _) fun _ => rfl
  · exact .none

theorem tupleFieldsOf_map (t : CTree) :
    Lifts (List.map (tupleFieldMap ρ)) (tupleFieldsOf t) (tupleFieldsOf (treeMap ρ t)) := by
  fun_induction tupleFieldsOf t with
  | case1 f => exact .map (tupleFieldOf_map ρ f) fun _ => rfl
  | case2 l r ih => exact .bind ih fun _ => .bind (tupleFieldOf_map ρ r) fun _ => .some (by simp)
  | case3 => exact .none

theorem fieldsetOf_map (t : CTree) : Lifts (fieldsetMap ρ) (fieldsetOf t) (fieldsetOf (treeMap ρ t)) := by
  fun_cases fieldsetOf t
  · exact .some rfl
  · exact .map (namedFieldsOf_map ρ _) fun _ => rfl
  · exact .map (tupleFieldsOf_map ρ _) fun _ => rfl
  · exact .none

theorem attrsOf_map (t : CTree) : Lifts (List.map (attrMap ρ)) (attrsOf t) (attrsOf (treeMap ρ t)) := by
  fun_induction attrsOf t with
  | case1 => exact .some rfl
  | case2 l r ih => exact .bind ih fun _ => .bind (attrOf_map ρ r) fun _ => .some (by simp)
  | case3 => exact .none

theorem pathOf_map (t : CTree) : Lifts (List.map (identMap ρ)) (pathOf t) (pathOf (treeMap ρ t)) := by
  fun_induction pathOf t with
  | case1 i => exact .map (identOf_map ρ i) fun _ => rfl
  | case2 l sep i ih => exact .bind ih fun _ => .bind (identOf_map ρ i) fun _ => .some (by simp)
  | case3 => exact .none

theorem types_map :
    (∀ t : CTree, Lifts (tyMap ρ) (typeOf t) (typeOf (treeMap ρ t))) ∧
    (∀ t : CTree, Lifts (List.map (tyMap ρ)) (typesOf t) (typesOf (treeMap ρ t))) := by
  apply typeOf.mutual_induct
  · intro a b; exact .some rfl
  · intro p; exact .map (pathOf_map ρ p) fun _ => rfl
  · intro callee x args y ih
    exact .bind (pathOf_map ρ callee) fun _ => .bind ih fun _ => .some (by simp [tyMap, tysMap_eq])
  · intro t h1 h2 h3; rw [typeOf.eq_def]
    split <;> first | exact .none | exact (h1 _ _ rfl).elim | exact (h2 _ rfl).elim | exact (h3 _ _ _ _ rfl).elim
  · intro t ih; exact .map ih fun _ => rfl
  · intro l x t ihl iht; exact .bind ihl fun _ => .bind iht fun _ => .some (by simp)
  · intro t h1 h2; rw [typesOf.eq_def]
    split <;> first | exact .none | exact (h1 _ rfl).elim | exact (h2 _ _ _ rfl).elim

theorem variantsOf_map (t : CTree) : Lifts (List.map (variantMap ρ)) (variantsOf t) (variantsOf (treeMap ρ t)) := by
  fun_induction variantsOf t with
  | case1 => exact .some rfl
  | case2 l name fs ih =>
    exact .bind ih fun _ => .bind (identOf_map ρ name) fun _ => .bind (fieldsetOf_map ρ fs) fun _ => .some (by simp [variantMap])
  | case3 => exact .none

theorem termVariantsOf_map (t : CTree) :
    Lifts (List.map (termVariantMap ρ)) (termVariantsOf t) (termVariantsOf (treeMap ρ t)) := by
  fun_induction termVariantsOf t with
  | case1 => exact .some rfl
  | case2 l name sep ty ih =>
    exact .bind ih fun _ => .bind (termIdentOf_map ρ name) fun _ => .bind ((types_map ρ).1 ty) fun _ =>
      .some (by simp [termVariantMap])
  | case3 => exact .none

theorem itemOf_map (t : CTree) : Lifts (itemMap ρ) (itemOf t) (itemOf (treeMap ρ t)) := by
  fun_cases itemOf t
  · exact .map (identOf_map ρ _) fun _ => rfl
  · exact .bind (attrsOf_map ρ _) fun _ => .bind (identOf_map ρ _) fun _ => .bind (fieldsetOf_map ρ _) fun _ => .some rfl
  · exact .bind (attrsOf_map ρ _) fun _ => .bind (identOf_map ρ _) fun _ => .bind (variantsOf_map ρ _) fun _ => .some rfl
  · exact .bind (attrsOf_map ρ _) fun _ => .bind (identOf_map ρ _) fun _ => .bind (termVariantsOf_map ρ _) fun _ =>
      .some rfl
  · exact .none

theorem itemsOf_map (t : CTree) : Lifts (List.map (itemMap ρ)) (itemsOf t) (itemsOf (treeMap ρ t)) := by
  fun_induction itemsOf t with
  | case1 => exact .some rfl
  | case2 l r ih => exact .bind ih fun _ => .bind (itemOf_map ρ r) fun _ => .some (by simp)
  | case3 => exact .none

theorem cstToAst_map {t : CTree} {v} (h : cstToAst t = some v) : cstToAst (treeMap ρ t) = some (fileMap ρ v) := by
  have : Lifts (fileMap ρ) (cstToAst t) (cstToAst (treeMap ρ t)) := by
    fun_cases cstToAst t
    · exact .map (itemsOf_map ρ _) fun _ => rfl
    · exact .none
  exact this v h

def cfgMap (c : Cfg Nat Token) : Cfg Nat Token :=
  ⟨c.states, c.nodes.map (treeMap ρ), c.rest.map (leafMap ρ)⟩

def resMap : StepRes Nat Token → StepRes Nat Token
  | .ok t => .ok (treeMap ρ t)
  | .err => .err
  | .panic => .panic
  | .cont c => .cont (cfgMap ρ c)

theorem la_map (l : List FTok) : la (l.map (leafMap ρ)) = la l := by
  cases l with
  | nil => rfl
  | cons x xs => simp [la, leafMap]

theorem step_map (g : Grammar Nat Nat) (A : Auto Nat Nat) (c : Cfg Nat Token) :
    step g A (cfgMap ρ c) = resMap ρ (step g A c) := by
  obtain ⟨states, nodes, rest⟩ := c
  -- every `match` of `step` has a discriminant that `cfgMap` leaves alone (states, lengths, the kind ahead)
  simp only [step, cfgMap, la_map, List.length_map]
  repeat' split
  all_goals simp_all [resMap, cfgMap, treeMap, treeMapL_eq, List.map_reverse, List.map_take, List.map_drop]

theorem runCfg_map (g : Grammar Nat Nat) (A : Auto Nat Nat) :
    ∀ (fuel : Nat) (c : Cfg Nat Token),
      runCfg g A fuel (cfgMap ρ c) = (runCfg g A fuel c).map fun rc => (resMap ρ rc.1, cfgMap ρ rc.2) := by
  intro fuel
  induction fuel with
  | zero => intro c; rfl
  | succ n ih =>
    intro c
    simp only [runCfg, step_map]
    cases step g A c <;> first | exact ih _ | rfl

def outMap : ParseOut → ParseOut
  | .ok t => .ok (treeMap ρ t)
  | .unexpected idx => .unexpected idx
  | .panic => .panic

/-- **`parser::parse` is natural in the positions** (it reads token kinds only; the offending index is the same) -/
theorem parse_map (toks : List Token) (fuel : Nat) :
    parse (toks.map (tokenMap ρ)) fuel = (parse toks fuel).map (outMap ρ) := by
  unfold parse
  have e : (⟨[frontAuto.start], [], (toks.map (tokenMap ρ)).map mkTok⟩ : Cfg Nat Token) =
      cfgMap ρ ⟨[frontAuto.start], [], toks.map mkTok⟩ := by
    simp [cfgMap, List.map_map, Function.comp_def, mkTok_map]
  rw [e, runCfg_map]
  rcases runCfg armG frontAuto fuel ⟨[frontAuto.start], [], toks.map mkTok⟩ with _ | ⟨r, cf⟩
  · rfl
  · cases r <;> simp [resMap, outMap, cfgMap]

/-! ### validation is natural: positions are copied into errors, never compared -/

def errMap : KErr → KErr
  | .lex i c => .lex (ρ i) c
  | .parse a s b => .parse (ρ a) s (ρ b)
  | .noStartSymbol => .noStartSymbol
  | .multipleStartSymbols ps => .multipleStartSymbols (ps.map ρ)
  | .noTerminalEnum => .noTerminalEnum
  | .multipleTerminalEnums ps => .multipleTerminalEnums (ps.map ρ)
  | .notUppercase p => .notUppercase (ρ p)
  | .notLowercase p => .notLowercase (ρ p)
  | .nameClash n p q => .nameClash n (ρ p) (ρ q)
  | .variantNameClash n p q => .variantNameClash n (ρ p) (ρ q)
  | .variantSeqClash syms p q => .variantSeqClash syms (ρ p) (ρ q)
  | .undefinedNonterminal n p => .undefinedNonterminal n (ρ p)
  | .undefinedTerminal n p => .undefinedTerminal n (ρ p)

def rmap {α β : Type} (g : α → β) : Res α → Res β
  | .ok a => .ok (g a)
  | .err e => .err (errMap ρ e)
  | .panic s => .panic s

/-- `r >>= k` with an error of `r` relabelled: `rmap_bind` and `rmap_of_bind` bring both sides of a naturality
statement about a `do` block to nested `rbind`s, so `simp` proves it from the statements about the calls -/
def rbind {α β : Type} (r : Res α) (k : α → Res β) : Res β :=
  match r with
  | .ok a => k a
  | .err e => .err (errMap ρ e)
  | .panic s => .panic s

@[simp] theorem rmap_bind {α α' β : Type} (r : Res α) (g : α → α') (k : α' → Res β) :
    (rmap ρ g r >>= k) = rbind ρ r fun a => k (g a) := by cases r <;> rfl

@[simp] theorem rmap_of_bind {α β β' : Type} (r : Res α) (f : α → Res β) (h : β → β') :
    rmap ρ h (r >>= f) = rbind ρ r fun a => rmap ρ h (f a) := by cases r <;> rfl

@[simp] theorem rmap_pure {α β : Type} (g : α → β) (a : α) : rmap ρ g (pure a) = pure (g a) := rfl
@[simp] theorem rmap_ok {α β : Type} (g : α → β) (a : α) : rmap ρ g (.ok a) = .ok (g a) := rfl
@[simp] theorem rmap_err {α β : Type} (g : α → β) (e : KErr) : rmap ρ g (.err e) = .err (errMap ρ e) := rfl

def vNontermMap : VFile.Nonterminal → VFile.Nonterminal
  | .struct s => .struct (structMap ρ s)
  | .enum e => .enum (enumMap ρ e)
def vTermEnumMap (t : VFile.TermEnum) : VFile.TermEnum := ⟨t.attrs.map (attrMap ρ), t.name, t.variants⟩
def vFileMap (f : VFile.File) : VFile.File := ⟨f.start, vTermEnumMap ρ f.tenum, f.nonterminals.map (vNontermMap ρ)⟩
def seenMap {κ : Type} (seen : List (κ × Nat)) : List (κ × Nat) := seen.map fun x => (x.1, ρ x.2)

open Validate

theorem pathToString_map (p : List Ast.Ident) : pathToString (p.map (identMap ρ)) = pathToString p := by
  simp [pathToString, List.map_map, Function.comp_def, identMap]

theorem typeToString_map :
    (∀ t : Ast.Ty, typeToString (tyMap ρ t) = typeToString t) ∧
    (∀ ts : List Ast.Ty, typesToStrings (tysMap ρ ts) = typesToStrings ts) := by
  apply typeToString.mutual_induct <;> simp_all [tyMap, tysMap, typeToString, typesToStrings, pathToString_map]

theorem validateUppercaseStart_map (name : Str) (pos : Nat) :
    validateUppercaseStart name (ρ pos) = rmap ρ id (validateUppercaseStart name pos) := by
  unfold validateUppercaseStart
  split
  · rfl
  · split <;> rfl

theorem assertLowercaseStart_map (name : Str) (pos : Nat) :
    assertLowercaseStart name (ρ pos) = rmap ρ id (assertLowercaseStart name pos) := by
  unfold assertLowercaseStart
  split
  · rfl
  · split <;> rfl

theorem filterMap_fileMap {β γ : Type} {F : Ast.Item → Option β} {g : β → γ} {G : Ast.Item → Option γ} (f : Ast.File)
    (h : ∀ x, G (itemMap ρ x) = (F x).map g) : (fileMap ρ f).items.filterMap G = (f.items.filterMap F).map g := by
  simp only [fileMap, List.filterMap_map, List.map_filterMap]
  exact congrArg (List.filterMap · f.items) (funext h)

theorem terminals_map (f : Ast.File) : terminals (fileMap ρ f) = (terminals f).map (termEnumMap ρ) :=
  filterMap_fileMap ρ f fun x => by cases x <;> rfl

theorem starts_map (f : Ast.File) : starts (fileMap ρ f) = (starts f).map (identMap ρ) :=
  filterMap_fileMap ρ f fun x => by cases x <;> rfl

theorem getUnvalidatedTerminalEnum_map (f : Ast.File) :
    getUnvalidatedTerminalEnum (fileMap ρ f) = rmap ρ (termEnumMap ρ) (getUnvalidatedTerminalEnum f) := by
  unfold getUnvalidatedTerminalEnum
  rw [terminals_map]
  rcases terminals f with _ | ⟨t, _ | ⟨t2, ts⟩⟩ <;>
    simp [rmap, errMap, termEnumMap, identMap, List.map_map, Function.comp_def]

theorem validateTerminalVariants_map (vs : List Ast.TermVariant) :
    validateTerminalVariants (vs.map (termVariantMap ρ)) = rmap ρ id (validateTerminalVariants vs) := by
  induction vs with
  | nil => rfl
  | cons v vs ih =>
    simp [validateTerminalVariants, termVariantMap, termIdentMap, validateUppercaseStart_map, ih, (typeToString_map ρ).1]

theorem getTerminalEnum_map (f : Ast.File) :
    getTerminalEnum (fileMap ρ f) = rmap ρ (vTermEnumMap ρ) (getTerminalEnum f) := by
  simp [getTerminalEnum, getUnvalidatedTerminalEnum_map, termEnumMap, identMap, validateUppercaseStart_map,
    validateTerminalVariants_map, vTermEnumMap]

@[simp] theorem seenMap_nil {κ : Type} : seenMap ρ ([] : List (κ × Nat)) = [] := rfl

@[simp] theorem seenMap_snoc {κ : Type} (seen : List (κ × Nat)) (k : κ) (p : Nat) :
    seenMap ρ (seen ++ [(k, p)]) = seenMap ρ seen ++ [(k, ρ p)] := by simp [seenMap]

theorem lookup_seenMap {κ : Type} [BEq κ] (seen : List (κ × Nat)) (k : κ) :
    (seenMap ρ seen).lookup k = (seen.lookup k).map ρ := by
  induction seen with
  | nil => rfl
  | cons x xs ih =>
    obtain ⟨k', p⟩ := x
    simp only [seenMap, List.map_cons, List.lookup_cons]
    cases k == k' with
    | true => rfl
    | false => exact ih

theorem define_map (seen : Seen) (name : Str) (pos : Nat) :
    define (seenMap ρ seen) name (ρ pos) = rmap ρ (seenMap ρ) (define seen name pos) := by
  unfold define
  rw [lookup_seenMap]
  cases seen.lookup name <;> simp [rmap, errMap]

theorem defineNonterminals_map (items : List Ast.Item) : ∀ seen : Seen,
    defineNonterminals (seenMap ρ seen) (items.map (itemMap ρ)) = rmap ρ (seenMap ρ) (defineNonterminals seen items) := by
  induction items with
  | nil => intro seen; rfl
  | cons x xs ih =>
    intro seen
    cases x <;> simp [itemMap, defineNonterminals, structMap, enumMap, identMap, define_map, ih]

theorem defineTerminalVariants_map (vs : List Ast.TermVariant) : ∀ seen : Seen,
    defineTerminalVariants (seenMap ρ seen) (vs.map (termVariantMap ρ)) =
      rmap ρ (seenMap ρ) (defineTerminalVariants seen vs) := by
  induction vs with
  | nil => intro seen; rfl
  | cons v vs ih => intro seen; simp [defineTerminalVariants, termVariantMap, termIdentMap, define_map, ih]

theorem getDefinedSymbolPositions_map (f : Ast.File) :
    getDefinedSymbolPositions (fileMap ρ f) = rmap ρ (seenMap ρ) (getDefinedSymbolPositions f) := by
  have h0 := defineNonterminals_map ρ f.items []
  simp only [seenMap_nil] at h0
  simp [getDefinedSymbolPositions, h0,
    getUnvalidatedTerminalEnum_map, termEnumMap, defineTerminalVariants_map]

theorem getDefinedSymbols_map (f : Ast.File) :
    getDefinedSymbols (fileMap ρ f) = rmap ρ id (getDefinedSymbols f) := by
  unfold getDefinedSymbols
  rw [show ∀ F : Ast.Item → Option Str, (∀ x, F (itemMap ρ x) = F x) →
      (fileMap ρ f).items.filterMap F = f.items.filterMap F from fun F h => by
    simpa using filterMap_fileMap ρ (g := id) f fun x => by simpa using h x]
  · simp [getDefinedSymbolPositions_map, getUnvalidatedTerminalEnum_map, termEnumMap,
      List.map_map, Function.comp_def, termVariantMap, termIdentMap]
  · intro x; cases x <;> rfl

theorem assertSymbolIsDefined_map (d : Defined) (s : Ast.SymId) :
    assertSymbolIsDefined d (symIdMap ρ s) = rmap ρ id (assertSymbolIsDefined d s) := by
  cases s <;> simp only [symIdMap, identMap, termIdentMap, assertSymbolIsDefined] <;> split <;> rfl

theorem assertNamedFields_map (d : Defined) (fs : List Ast.NamedField) :
    assertNamedFields d (fs.map (namedFieldMap ρ)) = rmap ρ id (assertNamedFields d fs) := by
  induction fs with
  | nil => rfl
  | cons f fs ih =>
    obtain ⟨n, s⟩ := f
    cases n <;> simp [assertNamedFields, namedFieldMap, fieldNameMap, identMap, assertSymbolIsDefined_map,
      assertLowercaseStart_map, ih]

theorem assertTupleFields_map (d : Defined) (fs : List Ast.TupleField) :
    assertTupleFields d (fs.map (tupleFieldMap ρ)) = rmap ρ id (assertTupleFields d fs) := by
  induction fs with
  | nil => rfl
  | cons f fs ih =>
    cases f <;> simp [assertTupleFields, tupleFieldMap, Ast.TupleField.sym, assertSymbolIsDefined_map, ih]

theorem assertFieldsetIsValid_map (d : Defined) (fs : Ast.Fieldset) :
    assertFieldsetIsValid d (fieldsetMap ρ fs) = rmap ρ id (assertFieldsetIsValid d fs) := by
  cases fs with
  | empty => rfl
  | named l => exact assertNamedFields_map ρ d l
  | tuple l => exact assertTupleFields_map ρ d l

theorem assertUniqueNames_map (vs : List Ast.Variant) : ∀ seen : Seen,
    assertUniqueNames (seenMap ρ seen) (vs.map (variantMap ρ)) = rmap ρ id (assertUniqueNames seen vs) := by
  induction vs with
  | nil => intro seen; rfl
  | cons v vs ih =>
    intro seen
    simp only [List.map_cons, assertUniqueNames, variantMap, identMap, lookup_seenMap]
    cases seen.lookup v.name.name with
    | some old => rfl
    | none => simpa using ih (seen ++ [(v.name.name, v.name.pos)])

theorem toSym_map (s : Ast.SymId) : (symIdMap ρ s).toSym = s.toSym := by cases s <;> rfl

theorem syms_map (fs : Ast.Fieldset) : (fieldsetMap ρ fs).syms = fs.syms.map (symIdMap ρ) := by
  cases fs with
  | empty => rfl
  | named l => simp [fieldsetMap, Ast.Fieldset.syms, List.map_map, Function.comp_def, namedFieldMap]
  | tuple l =>
    simp only [fieldsetMap, Ast.Fieldset.syms, List.map_map, Function.comp_def]
    exact List.map_congr_left fun f _ => by cases f <;> rfl

theorem fieldSymbolSequence_map (v : Ast.Variant) : fieldSymbolSequence (variantMap ρ v) = fieldSymbolSequence v := by
  simp [fieldSymbolSequence, variantMap, syms_map, List.map_map, Function.comp_def, toSym_map]

theorem assertUniqueSeqs_map (vs : List Ast.Variant) : ∀ seen : List (List Sym' × Nat),
    assertUniqueSeqs (seenMap ρ seen) (vs.map (variantMap ρ)) = rmap ρ id (assertUniqueSeqs seen vs) := by
  induction vs with
  | nil => intro seen; rfl
  | cons v vs ih =>
    intro seen
    simp only [List.map_cons, assertUniqueSeqs, fieldSymbolSequence_map, lookup_seenMap]
    cases seen.lookup (fieldSymbolSequence v) with
    | some old => rfl
    | none => simpa [variantMap, identMap] using ih (seen ++ [(fieldSymbolSequence v, v.name.pos)])

theorem assertEachVariant_map (d : Defined) (vs : List Ast.Variant) :
    assertEachVariant d (vs.map (variantMap ρ)) = rmap ρ id (assertEachVariant d vs) := by
  induction vs with
  | nil => rfl
  | cons v vs ih =>
    simp [assertEachVariant, variantMap, identMap, validateUppercaseStart_map, assertFieldsetIsValid_map, ih]

theorem validateNonterminals_map (d : Defined) (items : List Ast.Item) :
    validateNonterminals d (items.map (itemMap ρ)) =
      rmap ρ (List.map (vNontermMap ρ)) (validateNonterminals d items) := by
  induction items with
  | nil => rfl
  | cons x xs ih =>
    have h1 := fun vs => assertUniqueNames_map ρ vs []
    have h2 := fun vs => assertUniqueSeqs_map ρ vs []
    cases x <;> simp_all [itemMap, validateNonterminals, structMap, enumMap, identMap, vNontermMap,
      validateUppercaseStart_map, assertFieldsetIsValid_map, assertEachVariant_map]

theorem getNonterminals_map (f : Ast.File) :
    getNonterminals (fileMap ρ f) = rmap ρ (List.map (vNontermMap ρ)) (getNonterminals f) := by
  simp [getNonterminals, getDefinedSymbols_map, validateNonterminals_map]

theorem vname_map (n : VFile.Nonterminal) : (vNontermMap ρ n).name = n.name := by cases n <;> rfl

theorem getStartSymbolName_map (f : Ast.File) (nts : List VFile.Nonterminal) :
    getStartSymbolName (fileMap ρ f) (nts.map (vNontermMap ρ)) = rmap ρ id (getStartSymbolName f nts) := by
  unfold getStartSymbolName
  rw [starts_map]
  rcases starts f with _ | ⟨s, _ | ⟨s2, ss⟩⟩
  · rfl
  · simp only [List.map_cons, List.map_nil, identMap, List.any_map, Function.comp_def, vname_map]
    split <;> rfl
  · simp [rmap, errMap, identMap, List.map_map, Function.comp_def]

theorem assertNoTopLevelNameClashes_map (f : Ast.File) :
    assertNoTopLevelNameClashes (fileMap ρ f) = rmap ρ id (assertNoTopLevelNameClashes f) := by
  simp [assertNoTopLevelNameClashes, getDefinedSymbolPositions_map, getUnvalidatedTerminalEnum_map, termEnumMap,
    identMap, define_map]

/-- **`validate_ast` is natural in the positions**: the same verdict; the validated file relabelled; an error of the
same variant, with the same names, carrying the relabelled positions -/
theorem validateAst_map (f : Ast.File) :
    validateAst (fileMap ρ f) = rmap ρ (vFileMap ρ) (validateAst f) := by
  simp [validateAst, getTerminalEnum_map, getNonterminals_map, getStartSymbolName_map, assertNoTopLevelNameClashes_map,
    vFileMap]

/-! ### after validation nothing looks at a position -/

open Emit

def ruleMap (r : VFile.Rule) : VFile.Rule := ⟨r.ctor, fieldsetMap ρ r.fieldset⟩

theorem rules_map (f : VFile.File) : (vFileMap ρ f).rules = f.rules.map (ruleMap ρ) := by
  unfold VFile.File.rules vFileMap
  simp only [List.flatMap_map, List.map_flatMap]
  congr 1
  funext n
  cases n with
  | struct s => simp [vNontermMap, structMap, identMap, ruleMap]
  | enum e => simp [vNontermMap, enumMap, identMap, ruleMap, variantMap, List.map_map, Function.comp_def]

theorem codeSym_map (ts ns : List Str) (s : Ast.SymId) : Encode.codeSym ts ns (symIdMap ρ s) = Encode.codeSym ts ns s := by
  cases s <;> rfl

theorem codeRule_map (ts ns : List Str) (r : VFile.Rule) : Encode.codeRule ts ns (ruleMap ρ r) = Encode.codeRule ts ns r := by
  unfold Encode.codeRule ruleMap
  simp only [syms_map, List.mapM_map, Function.comp_def, codeSym_map]

theorem nonterminal_names_map (f : VFile.File) :
    (vFileMap ρ f).nonterminals.map (·.name) = f.nonterminals.map (·.name) := by
  simp [vFileMap, List.map_map, Function.comp_def, vname_map]

theorem encode_map (f : VFile.File) : Encode.encode (vFileMap ρ f) = Encode.encode f := by
  unfold Encode.encode
  rw [nonterminal_names_map, rules_map]
  simp only [List.mapM_map, Function.comp_def, codeRule_map]
  rfl

theorem fieldType_map (te : VFile.TermEnum) (s : Ast.SymId) :
    fieldType (vTermEnumMap ρ te) (symIdMap ρ s) = fieldType te s := by
  cases s <;> rfl

theorem namedFieldTypes_map (te : VFile.TermEnum) (fs : List Ast.NamedField) :
    namedFieldTypes (vTermEnumMap ρ te) (fs.map (namedFieldMap ρ)) = namedFieldTypes te fs := by
  induction fs with
  | nil => rfl
  | cons f fs ih =>
    simp only [List.map_cons, namedFieldTypes, namedFieldMap]
    cases hn : f.name with
    | us p => simp only [fieldNameMap]; exact ih
    | id i => simp only [fieldNameMap, identMap, fieldType_map, ih]

theorem tupleFieldTypes_map (te : VFile.TermEnum) (fs : List Ast.TupleField) :
    tupleFieldTypes (vTermEnumMap ρ te) (fs.map (tupleFieldMap ρ)) = tupleFieldTypes te fs := by
  induction fs with
  | nil => rfl
  | cons f fs ih =>
    cases f with
    | skipped s => simp only [List.map_cons, tupleFieldMap, tupleFieldTypes]; exact ih
    | used s => simp only [List.map_cons, tupleFieldMap, tupleFieldTypes, fieldType_map, ih]

theorem namedIsUsed_map (f : Ast.NamedField) : (namedFieldMap ρ f).isUsed = f.isUsed := by
  unfold Ast.NamedField.isUsed namedFieldMap
  cases f.name <;> rfl

theorem tupleIsUsed_map (f : Ast.TupleField) : (tupleFieldMap ρ f).isUsed = f.isUsed := by cases f <;> rfl

theorem bodyOf_map (te : VFile.TermEnum) (fs : Ast.Fieldset) :
    bodyOf (vTermEnumMap ρ te) (fieldsetMap ρ fs) = bodyOf te fs := by
  cases fs with
  | empty => rfl
  | named l =>
    simp only [fieldsetMap, bodyOf, List.any_map, Function.comp_def, namedIsUsed_map, namedFieldTypes_map]
  | tuple l =>
    simp only [fieldsetMap, bodyOf, List.any_map, Function.comp_def, tupleIsUsed_map, tupleFieldTypes_map]

theorem attrSrcs_map (as : List Ast.Attr) : attrSrcs (as.map (attrMap ρ)) = attrSrcs as := by
  simp [attrSrcs, List.map_map, Function.comp_def, attrMap]

theorem typeDefOf_map (te : VFile.TermEnum) (n : VFile.Nonterminal) :
    typeDefOf (vTermEnumMap ρ te) (vNontermMap ρ n) = typeDefOf te n := by
  cases n with
  | struct s => simp only [vNontermMap, structMap, typeDefOf, bodyOf_map, attrSrcs_map, identMap]
  | enum e =>
    simp only [vNontermMap, enumMap, typeDefOf, attrSrcs_map, identMap, List.mapM_map, Function.comp_def, variantMap,
      bodyOf_map]

theorem map_zipIdx_map {α β : Type} {m : α → α} {A : α × Nat → β} (h : ∀ a i, A (m a, i) = A (a, i)) (l : List α) :
    (l.map m).zipIdx.map A = l.zipIdx.map A := by
  simp [List.zipIdx_map, Function.comp_def, h]

theorem filterMap_zipIdx_map {α β : Type} {m : α → α} {A : α × Nat → Option β} (h : ∀ a i, A (m a, i) = A (a, i))
    (l : List α) : (l.map m).zipIdx.filterMap A = l.zipIdx.filterMap A := by
  rw [List.zipIdx_map, List.filterMap_map]
  exact congrArg (List.filterMap · _) (funext fun ⟨a, i⟩ => h a i)

theorem reduceFnOf_map (ms : List (Str × Str × Str)) (idx : Nat) (r : VFile.Rule) :
    reduceFnOf ms idx (ruleMap ρ r) = reduceFnOf ms idx r := by
  obtain ⟨ctor, fs⟩ := r
  cases fs with
  | empty => rfl
  | named l =>
    simp only [ruleMap, fieldsetMap, reduceFnOf, List.any_map, Function.comp_def, namedIsUsed_map]
    rw [map_zipIdx_map, filterMap_zipIdx_map] <;> rintro ⟨nm, sy⟩ i <;> cases nm <;> cases sy <;> rfl
  | tuple l =>
    simp only [ruleMap, fieldsetMap, reduceFnOf, List.any_map, Function.comp_def, tupleIsUsed_map]
    rw [map_zipIdx_map, filterMap_zipIdx_map] <;> rintro (s | s) i <;> cases s <;> rfl

theorem definedIdentifiers_map (f : VFile.File) : (vFileMap ρ f).definedIdentifiers = f.definedIdentifiers := by
  unfold VFile.File.definedIdentifiers
  rw [nonterminal_names_map]
  rfl

theorem moduleOf_map (f : VFile.File) (enc : Encode.Enc) (t : Table.Table) (sha : Str) :
    moduleOf (vFileMap ρ f) enc t sha = moduleOf f enc t sha := by
  unfold moduleOf
  rw [definedIdentifiers_map, rules_map, nonterminal_names_map]
  have hms : ∀ te, methodNames (vTermEnumMap ρ te) = methodNames te := fun _ => rfl
  have h := map_zipIdx_map (A := fun (r, i) => reduceFnOf (methodNames f.tenum) i r)
    (fun r i => reduceFnOf_map ρ _ i r) f.rules
  have ha : ∀ te, attrSrcs (vTermEnumMap ρ te).attrs = attrSrcs te.attrs := fun te => attrSrcs_map ρ te.attrs
  simp only [vFileMap, hms, h, ha, List.mapM_map, Function.comp_def, typeDefOf_map, List.length_map]
  rfl

end Relabel
end KikiVerif
