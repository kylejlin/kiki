/-
What `validate_ast` does, one `Res.Spec` statement per function; the three parts of C10 are read off `validateAst_spec`.
-/
import KikiVerif.Model.Validate
import KikiVerif.Spec.WellFormed
import KikiVerif.Proofs.Res
import KikiVerif.Proofs.Basic

namespace KikiVerif

namespace Validate
open Ast Text Spec Res

theorem termEnums_eq (f : File) : termEnums f = terminals f := rfl
theorem startDecls_eq (f : File) : startDecls f = starts f := rfl

theorem upper_spec (name : Str) (pos : Nat) :
    Spec (validateUppercaseStart name pos) (fun _ => UpperOk name) (fun e => e = .notUppercase pos ∧ ¬ UpperOk name) := by
  unfold validateUppercaseStart UpperOk
  cases name.find? isAsciiAlpha with
  | none => exact fun _ h => nomatch h
  | some c => by_cases h : isAsciiUpper c = true <;> simp [Spec, h]

theorem lower_spec (name : Str) (pos : Nat) :
    Spec (assertLowercaseStart name pos) (fun _ => LowerOk name) (fun e => e = .notLowercase pos ∧ ¬ LowerOk name) := by
  unfold assertLowercaseStart LowerOk
  cases name.find? isAsciiAlpha with
  | none => exact fun _ h => nomatch h
  | some c => by_cases h : isAsciiLower c = true <;> simp [Spec, h]

theorem unvalidated_spec (f : File) : Spec (getUnvalidatedTerminalEnum f) (fun t => terminals f = [t]) (Truthful f) := by
  unfold getUnvalidatedTerminalEnum
  split
  · exact .noTerminal ‹_›
  · assumption
  · exact .multiTerminal (List.two_le_length ‹_› ‹_›)

theorem terminalVariants_spec : ∀ vs : List TermVariant, Spec (validateTerminalVariants vs)
    (fun r => r = vs.map (fun v => ⟨Tokenize.removeDollars v.name.name, typeToString v.ty⟩) ∧
      ∀ v ∈ vs, UpperOk v.name.name)
    (fun e => ∃ v ∈ vs, e = .notUppercase v.name.dpos ∧ ¬ UpperOk v.name.name)
  | [] => ⟨rfl, nofun⟩
  | v :: vs =>
    ((upper_spec _ _).err_imp fun _ h => ⟨v, List.mem_cons_self, h⟩).bind fun _ hv =>
      ((terminalVariants_spec vs).err_imp fun _ ⟨w, hw, h⟩ => ⟨w, List.mem_cons_of_mem _ hw, h⟩).bind
        fun _ ⟨hr, hvs⟩ => ⟨by rw [hr]; rfl, List.forall_mem_cons.mpr ⟨hv, hvs⟩⟩

theorem mem_terminal {f : File} {t : TermEnum} (h : termEnums f = [t]) : Item.terminal t ∈ f.items := by
  have : t ∈ termEnums f := h ▸ List.mem_singleton.mpr rfl
  obtain ⟨it, hit, he⟩ := List.mem_filterMap.mp this
  cases it <;> cases he
  exact hit

theorem getTerminalEnum_spec (f : File) : Spec (getTerminalEnum f)
    (fun te => ∃ t, terminals f = [t] ∧ UpperOk t.name.name ∧ (∀ v ∈ t.variants, UpperOk v.name.name) ∧
      te = ⟨t.attrs, t.name.name, t.variants.map fun v => ⟨Tokenize.removeDollars v.name.name, typeToString v.ty⟩⟩)
    (Truthful f) :=
  (unvalidated_spec f).bind fun t ht =>
    have occ : ∀ p ∈ (t.name.name, t.name.pos) :: t.variants.map (fun v => (v.name.name, v.name.dpos)),
        p ∈ upperOccs f := fun p hp => List.mem_flatMap.mpr ⟨_, mem_terminal ht, hp⟩
    ((upper_spec _ _).err_imp fun _ ⟨he, h⟩ => he ▸ .notUpper _ _ (occ _ List.mem_cons_self) h).bind
      fun _ hu => ((terminalVariants_spec _).err_imp fun _ ⟨v, hv, he, h⟩ =>
        he ▸ .notUpper _ _ (occ _ (List.mem_cons_of_mem _ (List.mem_map_of_mem hv))) h).bind
        fun _ ⟨hr, hvs⟩ => ⟨t, ht, hu, hvs, by rw [hr]⟩

/-- `define`, for any kind of key and error -/
def enter1 {κ : Type} [BEq κ] (mk : κ → Nat → Nat → KErr) (seen : List (κ × Nat)) (k : κ) (p : Nat) :
    Res (List (κ × Nat)) :=
  match seen.lookup k with
  | some old => .err (mk k old p)
  | none => .ok (seen ++ [(k, p)])

/-- the loop shared by `define_nonterminals`, `define_terminal_variants` and the two uniqueness checks on the
variants of an enum: enter the keys in order, stop at the first one already present -/
def enter {κ : Type} [BEq κ] (mk : κ → Nat → Nat → KErr) : List (κ × Nat) → List (κ × Nat) → Res (List (κ × Nat))
  | seen, [] => .ok seen
  | seen, (k, p) :: l => enter1 mk seen k p >>= fun s => enter mk s l

theorem enter1_spec {κ : Type} [BEq κ] [LawfulBEq κ] (mk : κ → Nat → Nat → KErr) (seen : List (κ × Nat)) (k : κ) (p : Nat) :
    Spec (enter1 mk seen k p) (fun s => s = seen ++ [(k, p)] ∧ k ∉ seen.map (·.1))
      (fun e => ∃ old pre mid, e = mk k old p ∧ seen = pre ++ (k, old) :: mid) := by
  unfold enter1
  split
  · obtain ⟨pre, mid, h, -⟩ := List.lookup_eq_some_iff.mp ‹_›
    exact ⟨_, pre, mid, rfl, h⟩
  · exact ⟨rfl, List.not_mem_keys_of_lookup_eq_none ‹_›⟩

theorem enter_spec {κ : Type} [BEq κ] [LawfulBEq κ] (mk : κ → Nat → Nat → KErr) :
    ∀ l seen : List (κ × Nat), Spec (enter mk seen l)
      (fun s => s = seen ++ l ∧ ((seen.map (·.1)).Nodup → (s.map (·.1)).Nodup))
      (fun e => ∃ k p q, e = mk k p q ∧ Before (seen ++ l) (k, p) (k, q))
  | [], seen => ⟨by simp, id⟩
  | (k, p) :: l, seen =>
    ((enter1_spec mk seen k p).err_imp fun e ⟨old, pre, mid, he, hs⟩ => ⟨k, old, p, he, pre, mid, l, by simp [hs]⟩).bind
      fun s1 ⟨h1, hk⟩ => (enter_spec mk l s1).imp
        (fun s ⟨hs, hn⟩ => ⟨by simp [hs, h1], fun h => hn (by rw [h1, List.map_append]; exact h.append_singleton hk)⟩)
        fun e h => by simpa [h1] using h

theorem enter_append {κ : Type} [BEq κ] (mk : κ → Nat → Nat → KErr) : ∀ l₁ l₂ seen : List (κ × Nat),
    enter mk seen (l₁ ++ l₂) = enter mk seen l₁ >>= fun s => enter mk s l₂
  | [], _, _ => rfl
  | (k, p) :: l₁, l₂, seen => by
    simp only [List.cons_append, enter]
    cases enter1 mk seen k p <;> first | rfl | exact enter_append mk l₁ l₂ _

def tvDefs (vs : List TermVariant) : List (Str × Nat) := vs.map fun v => (v.name.name, v.name.dpos)

def itemDefs (items : List Item) : List (Str × Nat) :=
  items.filterMap fun
    | .struct s => some (s.name.name, s.name.pos)
    | .enum e => some (e.name.name, e.name.pos)
    | _ => none

theorem itemDefs_eq (f : File) : itemDefs f.items = ntDefs f := rfl

theorem defineNonterminals_eq : ∀ (items : List Item) (seen : Seen),
    defineNonterminals seen items = enter .nameClash seen (itemDefs items)
  | [], _ => rfl
  | .struct _ :: items, _ | .enum _ :: items, _ => congrArg _ (funext (defineNonterminals_eq items))
  | .start _ :: items, _ | .terminal _ :: items, _ => defineNonterminals_eq items _

theorem defineTerminalVariants_eq : ∀ (vs : List TermVariant) (seen : Seen),
    defineTerminalVariants seen vs = enter .nameClash seen (tvDefs vs)
  | [], _ => rfl
  | _ :: vs, _ => congrArg _ (funext (defineTerminalVariants_eq vs))

theorem assertUniqueNames_eq : ∀ (vs : List Variant) (seen : Seen),
    assertUniqueNames seen vs =
      enter .variantNameClash seen (vs.map fun v => (v.name.name, v.name.pos)) >>= fun _ => .ok ()
  | [], _ => rfl
  | v :: vs, seen => by
    simp only [assertUniqueNames, List.map_cons, enter, enter1]
    cases seen.lookup v.name.name <;> first | rfl | exact assertUniqueNames_eq vs _

theorem assertUniqueSeqs_eq : ∀ (vs : List Variant) (seen : List (List Sym' × Nat)),
    assertUniqueSeqs seen vs =
      enter .variantSeqClash seen (vs.map fun v => (v.fieldset.syms.map (·.toSym), v.name.pos)) >>= fun _ => .ok ()
  | [], _ => rfl
  | v :: vs, seen => by
    simp only [assertUniqueSeqs, List.map_cons, enter, enter1, fieldSymbolSequence]
    cases seen.lookup (v.fieldset.syms.map (·.toSym)) <;> first | rfl | exact assertUniqueSeqs_eq vs _

theorem enter_nil_spec {κ : Type} [BEq κ] [LawfulBEq κ] (mk : κ → Nat → Nat → KErr) (l : List (κ × Nat)) :
    Spec (enter mk [] l) (fun s => s = l ∧ (l.map (·.1)).Nodup) (fun e => ∃ k p q, e = mk k p q ∧ Before l (k, p) (k, q)) :=
  (enter_spec mk l []).imp (fun _ ⟨hs, hn⟩ => ⟨hs, by simpa [hs] using hn⟩) fun _ h => h

theorem unvalidated_eq {f : File} {t : TermEnum} (ht : terminals f = [t]) : getUnvalidatedTerminalEnum f = .ok t := by
  unfold getUnvalidatedTerminalEnum; rw [ht]

theorem positions_eq {f : File} {t : TermEnum} (ht : terminals f = [t]) :
    getDefinedSymbolPositions f = enter .nameClash [] (ntDefs f ++ tvDefs t.variants) := by
  simp only [getDefinedSymbolPositions, unvalidated_eq ht, ok_bind, enter_append, defineNonterminals_eq,
    defineTerminalVariants_eq, itemDefs_eq]

theorem before_append_right {α : Type} {l : List α} {a b : α} (r : List α) (h : Before l a b) :
    Before (l ++ r) a b := by
  obtain ⟨pre, mid, post, rfl⟩ := h
  exact ⟨pre, mid, post ++ r, by simp⟩

theorem topDefs_spec {f : File} {t : TermEnum} (ht : terminals f = [t]) {l r : List (Str × Nat)}
    (h : topDefs f t = l ++ r) : Spec (enter .nameClash [] l) (fun s => s = l ∧ (l.map (·.1)).Nodup) (Truthful f) :=
  (enter_nil_spec _ l).err_imp fun _ ⟨k, p, q, he, hb⟩ => he ▸ .nameClash t k p q ht (h ▸ before_append_right r hb)

/-- the names `get_defined_symbols` returns -/
def definedOf (f : File) (t : TermEnum) : Defined := ⟨nonterminalNames f, t.variants.map (·.name.name)⟩

theorem getDefinedSymbols_spec {f : File} {t : TermEnum} (ht : terminals f = [t]) : Spec (getDefinedSymbols f)
    (fun d => d = definedOf f t) (Truthful f) := by
  unfold getDefinedSymbols
  rw [positions_eq ht, unvalidated_eq ht]
  exact (topDefs_spec ht rfl).bind fun _ _ => rfl

theorem noClashes_spec {f : File} {t : TermEnum} (ht : terminals f = [t]) : Spec (assertNoTopLevelNameClashes f)
    (fun _ => ((topDefs f t).map (·.1)).Nodup) (Truthful f) := by
  unfold assertNoTopLevelNameClashes
  rw [positions_eq ht, unvalidated_eq ht]
  refine (topDefs_spec ht rfl).bind fun s ⟨hs, hn⟩ => ((enter1_spec .nameClash s _ _).imp ?_ ?_).bind fun _ h => h
  · rintro _ ⟨rfl, hk⟩
    rw [topDefs, ← hs, List.map_append]
    exact (hs ▸ hn).append_singleton hk
  · rintro _ ⟨old, pre, mid, rfl, h⟩
    exact .nameClash t _ _ _ ht ⟨pre, mid, [], by rw [topDefs, ← hs, h]⟩

def SymOk (d : Defined) : SymId → Prop
  | .n i => i.name ∈ d.nonterminals
  | .t i => i.name ∈ d.terminals

def undefErr : SymId → KErr
  | .n i => .undefinedNonterminal i.name i.pos
  | .t i => .undefinedTerminal i.name i.dpos

theorem symbol_spec (d : Defined) (s : SymId) :
    Spec (assertSymbolIsDefined d s) (fun _ => SymOk d s) (fun e => e = undefErr s ∧ ¬ SymOk d s) := by
  cases s <;> simp only [assertSymbolIsDefined, SymOk, undefErr] <;> split <;> simp_all [Spec]

def FsOk (d : Defined) (fs : Fieldset) : Prop :=
  (∀ s ∈ fs.syms, SymOk d s) ∧ ∀ n ∈ namedFieldNames fs, LowerOk n

def FsErr (d : Defined) (fs : Fieldset) (e : KErr) : Prop :=
  (∃ s ∈ fs.syms, e = undefErr s ∧ ¬ SymOk d s) ∨ ∃ i ∈ fieldsetIdents fs, e = .notLowercase i.pos ∧ ¬ LowerOk i.name

theorem FsErr.mono {d : Defined} {fs fs' : Fieldset} {e : KErr} (h : FsErr d fs e) (hs : fs.syms ⊆ fs'.syms)
    (hi : fieldsetIdents fs ⊆ fieldsetIdents fs') : FsErr d fs' e :=
  h.imp (fun ⟨s, m, h⟩ => ⟨s, hs m, h⟩) fun ⟨i, m, h⟩ => ⟨i, hi m, h⟩

theorem namedFields_spec (d : Defined) : ∀ flds : List NamedField,
    Spec (assertNamedFields d flds) (fun _ => FsOk d (.named flds)) (FsErr d (.named flds))
  | [] => ⟨nofun, nofun⟩
  | ⟨n, s⟩ :: flds => by
    -- with `n`'s constructor in sight the name lists of the cons reduce by `whnf`: nothing to rewrite
    have sym : Spec (assertSymbolIsDefined d s) _ (FsErr d (.named (⟨n, s⟩ :: flds))) :=
      (symbol_spec d s).err_imp fun _ h => .inl ⟨_, List.mem_cons_self, h⟩
    have ih := namedFields_spec d flds
    cases n with
    | us p =>
      exact sym.bind fun _ hs => ih.imp (fun _ h => ⟨List.forall_mem_cons.mpr ⟨hs, h.1⟩, h.2⟩) fun _ h =>
        h.mono (List.subset_cons_self ..) (List.Subset.refl _)
    | id i =>
      exact ((lower_spec _ _).err_imp fun _ h => .inr ⟨i, List.mem_cons_self, h⟩).bind fun _ hl =>
        sym.bind fun _ hs => ih.imp
          (fun _ h => ⟨List.forall_mem_cons.mpr ⟨hs, h.1⟩, List.forall_mem_cons.mpr ⟨hl, h.2⟩⟩) fun _ h =>
          h.mono (List.subset_cons_self ..) (List.subset_cons_self ..)

theorem tupleFields_spec (d : Defined) : ∀ flds : List TupleField,
    Spec (assertTupleFields d flds) (fun _ => FsOk d (.tuple flds)) (FsErr d (.tuple flds))
  | [] => ⟨nofun, nofun⟩
  | fld :: flds =>
    ((symbol_spec d fld.sym).err_imp fun _ h => .inl ⟨_, List.mem_cons_self, h⟩).bind fun _ hs =>
      (tupleFields_spec d flds).imp (fun _ h => ⟨List.forall_mem_cons.mpr ⟨hs, h.1⟩, h.2⟩) fun _ h =>
        h.mono (List.subset_cons_self ..) (List.Subset.refl _)

theorem fieldset_spec (d : Defined) : ∀ fs : Fieldset, Spec (assertFieldsetIsValid d fs) (fun _ => FsOk d fs) (FsErr d fs)
  | .empty => ⟨nofun, nofun⟩
  | .named flds => namedFields_spec d flds
  | .tuple flds => tupleFields_spec d flds

def VariantErr (d : Defined) (v : Variant) (e : KErr) : Prop :=
  (e = .notUppercase v.name.pos ∧ ¬ UpperOk v.name.name) ∨ FsErr d v.fieldset e

theorem eachVariant_spec (d : Defined) : ∀ vs : List Variant, Spec (assertEachVariant d vs)
    (fun _ => ∀ v ∈ vs, UpperOk v.name.name ∧ FsOk d v.fieldset) (fun e => ∃ v ∈ vs, VariantErr d v e)
  | [] => nofun
  | v :: vs =>
    ((upper_spec _ _).err_imp fun _ h => ⟨v, List.mem_cons_self, .inl h⟩).bind fun _ hu =>
      ((fieldset_spec d _).err_imp fun _ h => ⟨v, List.mem_cons_self, .inr h⟩).bind fun _ hf =>
        (eachVariant_spec d vs).imp (fun _ h => List.forall_mem_cons.mpr ⟨⟨hu, hf⟩, h⟩)
          fun _ ⟨w, hw, h⟩ => ⟨w, List.mem_cons_of_mem _ hw, h⟩

theorem uniqueNames_spec (vs : List Variant) : Spec (assertUniqueNames [] vs) (fun _ => (vs.map (·.name.name)).Nodup)
    (fun e => ∃ name p q, e = .variantNameClash name p q ∧
      Before (vs.map fun v => (v.name.name, v.name.pos)) (name, p) (name, q)) := by
  rw [assertUniqueNames_eq]
  exact (enter_nil_spec _ _).bind fun _ h => show (vs.map _).Nodup by simpa [List.map_map, Function.comp_def] using h.2

theorem uniqueSeqs_spec (vs : List Variant) : Spec (assertUniqueSeqs [] vs) (fun _ => (vs.map fieldSymbolSequence).Nodup)
    (fun e => ∃ seq p q, e = .variantSeqClash seq p q ∧
      Before (vs.map fun v => (v.fieldset.syms.map (·.toSym), v.name.pos)) (seq, p) (seq, q)) := by
  rw [assertUniqueSeqs_eq]
  exact (enter_nil_spec _ _).bind fun _ h => show (vs.map fun v => v.fieldset.syms.map (·.toSym)).Nodup by
    simpa [List.map_map, Function.comp_def] using h.2

/-- what `validate_nonterminal` requires of a struct or enum declaration -/
def ItemOk (d : Defined) : Item → Prop
  | .struct s => UpperOk s.name.name ∧ FsOk d s.fieldset
  | .enum e => UpperOk e.name.name ∧ (e.variants.map (·.name.name)).Nodup ∧
      (e.variants.map fieldSymbolSequence).Nodup ∧ ∀ v ∈ e.variants, UpperOk v.name.name ∧ FsOk d v.fieldset
  | _ => True

def ItemErr (d : Defined) : Item → KErr → Prop
  | .struct s, e => (e = .notUppercase s.name.pos ∧ ¬ UpperOk s.name.name) ∨ FsErr d s.fieldset e
  | .enum en, e => (e = .notUppercase en.name.pos ∧ ¬ UpperOk en.name.name) ∨
      (∃ name p q, e = .variantNameClash name p q ∧
        Before (en.variants.map fun v => (v.name.name, v.name.pos)) (name, p) (name, q)) ∨
      (∃ seq p q, e = .variantSeqClash seq p q ∧
        Before (en.variants.map fun v => (v.fieldset.syms.map (·.toSym), v.name.pos)) (seq, p) (seq, q)) ∨
      ∃ v ∈ en.variants, VariantErr d v e
  | _, _ => False

def ntsOf (items : List Item) : List VFile.Nonterminal :=
  items.filterMap fun
    | .struct s => some (.struct s)
    | .enum e => some (.enum e)
    | _ => none

theorem validateNonterminals_spec (d : Defined) : ∀ items : List Item, Spec (validateNonterminals d items)
    (fun nts => nts = ntsOf items ∧ ∀ it ∈ items, ItemOk d it) (fun e => ∃ it ∈ items, ItemErr d it e)
  | [] => ⟨rfl, nofun⟩
  | it :: items => by
    have here : ∀ e, ItemErr d it e → ∃ it' ∈ it :: items, ItemErr d it' e := fun e h => ⟨it, List.mem_cons_self, h⟩
    have tl := (validateNonterminals_spec d items).err_imp fun _ ⟨w, hw, h⟩ =>
      (⟨w, List.mem_cons_of_mem _ hw, h⟩ : ∃ it' ∈ it :: items, ItemErr d it' _)
    cases it with
    | struct s =>
      exact ((upper_spec _ _).err_imp fun e h => here e (.inl h)).bind fun _ hu =>
        ((fieldset_spec d _).err_imp fun e h => here e (.inr h)).bind fun _ hf =>
        tl.bind fun _ ⟨hr, h⟩ => ⟨congrArg _ hr, List.forall_mem_cons.mpr ⟨⟨hu, hf⟩, h⟩⟩
    | enum en =>
      exact ((upper_spec _ _).err_imp fun e h => here e (.inl h)).bind fun _ hu =>
        ((uniqueNames_spec _).err_imp fun e h => here e (.inr (.inl h))).bind fun _ hn =>
        ((uniqueSeqs_spec _).err_imp fun e h => here e (.inr (.inr (.inl h)))).bind fun _ hs =>
        ((eachVariant_spec d _).err_imp fun e h => here e (.inr (.inr (.inr h)))).bind fun _ hv =>
        tl.bind fun _ ⟨hr, h⟩ => ⟨congrArg _ hr, List.forall_mem_cons.mpr ⟨⟨hu, hn, hs, hv⟩, h⟩⟩
    | start _ | terminal _ => exact tl.imp (fun _ ⟨hr, h⟩ => ⟨hr, List.forall_mem_cons.mpr ⟨trivial, h⟩⟩) fun _ h => h

structure ItemsOk (d : Defined) (items : List Item) : Prop where
  structs : ∀ s, Item.struct s ∈ items → UpperOk s.name.name ∧ (∀ x ∈ s.fieldset.syms, SymOk d x) ∧
    (∀ n ∈ namedFieldNames s.fieldset, LowerOk n)
  enums : ∀ e, Item.enum e ∈ items → UpperOk e.name.name ∧ (e.variants.map (·.name.name)).Nodup ∧
    (e.variants.map fieldSymbolSequence).Nodup ∧
    ∀ v ∈ e.variants, UpperOk v.name.name ∧ (∀ x ∈ v.fieldset.syms, SymOk d x) ∧
      (∀ n ∈ namedFieldNames v.fieldset, LowerOk n)

theorem validateNonterminals_ok {d : Defined} {items : List Item} {nts : List VFile.Nonterminal}
    (h : validateNonterminals d items = .ok nts) : ItemsOk d items ∧ nts = ntsOf items :=
  have ⟨hr, hall⟩ := (validateNonterminals_spec d items).of_ok h
  ⟨⟨fun _ hs => hall _ hs, fun _ he => hall _ he⟩, hr⟩

theorem ntsOf_names (f : File) : (ntsOf f.items).map (·.name) = nonterminalNames f := by
  unfold ntsOf nonterminalNames
  rw [List.map_filterMap]
  congr 1; funext it; cases it <;> rfl

theorem getStart_spec {f : File} {nts : List VFile.Nonterminal} (hn : nts.map (·.name) = nonterminalNames f) :
    Spec (getStartSymbolName f nts) (fun s => ∃ i, starts f = [i] ∧ s = i.name ∧ i.name ∈ nonterminalNames f)
      (Truthful f) := by
  unfold getStartSymbolName
  split
  · exact .noStart ‹_›
  · rename_i i hi
    have : nts.any (·.name == i.name) = true ↔ i.name ∈ nonterminalNames f := by simp [← hn]
    split
    · exact ⟨i, hi, rfl, this.mp ‹_›⟩
    · exact .undefNonterminal i (.inr (by simp [startDecls_eq, hi])) fun h => ‹¬ _› (this.mpr h)
  · exact .multiStart (List.two_le_length ‹_› ‹_›)

theorem fsErr_truthful {f : File} {t : TermEnum} {fs : Fieldset} {e : KErr} (ht : terminals f = [t])
    (hfs : fs ∈ fieldsets f) (h : FsErr (definedOf f t) fs e) : Truthful f e := by
  rcases h with ⟨s, hs, rfl, h⟩ | ⟨i, hi, rfl, h⟩
  · have hm : s ∈ allSyms f := List.mem_flatMap.mpr ⟨fs, hfs, hs⟩
    cases s with
    | n i => exact .undefNonterminal i (.inl hm) h
    | t i => exact .undefTerminal t i ht hm h
  · exact .notLower i (List.mem_flatMap.mpr ⟨fs, hfs, hi⟩) h

theorem itemErr_truthful {f : File} {t : TermEnum} {it : Item} {e : KErr} (ht : terminals f = [t]) (hit : it ∈ f.items)
    (h : ItemErr (definedOf f t) it e) : Truthful f e := by
  have occ {p} (hp : p ∈ _) : p ∈ upperOccs f := List.mem_flatMap.mpr ⟨it, hit, hp⟩
  have fss {fs} (h : fs ∈ _) : fs ∈ fieldsets f := List.mem_flatMap.mpr ⟨it, hit, h⟩
  cases it with
  | struct s =>
    rcases h with ⟨rfl, h⟩ | h
    · exact .notUpper _ _ (occ List.mem_cons_self) h
    · exact fsErr_truthful ht (fss List.mem_cons_self) h
  | enum en =>
    have hen : en ∈ enums f := List.mem_filterMap.mpr ⟨_, hit, rfl⟩
    rcases h with ⟨rfl, h⟩ | ⟨_, _, _, rfl, h⟩ | ⟨_, _, _, rfl, h⟩ | ⟨v, hv, ⟨rfl, h⟩ | h⟩
    · exact .notUpper _ _ (occ List.mem_cons_self) h
    · exact .variantNameClash en _ _ _ hen h
    · exact .variantSeqClash en _ _ _ hen h
    · exact .notUpper _ _ (occ (List.mem_cons_of_mem _ (List.mem_map_of_mem hv))) h
    · exact fsErr_truthful ht (fss (List.mem_map_of_mem hv)) h
  | start _ => exact h.elim
  | terminal _ => exact h.elim

theorem topDefs_names (f : File) (t : TermEnum) :
    (topDefs f t).map (·.1) = nonterminalNames f ++ t.variants.map (·.name.name) ++ [t.name.name] := by
  simp only [topDefs, ntDefs, nonterminalNames, List.map_append, List.map_map, List.map_cons, List.map_nil,
    List.map_filterMap]
  congr 3; funext it; cases it <;> rfl

theorem wellFormed_of {f : File} {t : TermEnum} {i : Ident} (ht : terminals f = [t]) (hi : starts f = [i])
    (his : i.name ∈ nonterminalNames f) (hut : UpperOk t.name.name) (huv : ∀ v ∈ t.variants, UpperOk v.name.name)
    (hitems : ∀ it ∈ f.items, ItemOk (definedOf f t) it)
    (hnd : ((topDefs f t).map (·.1)).Nodup) : WellFormed f := by
  have only : ∀ t', termEnums f = [t'] → t' = t := fun t' h => by cases ht.symm.trans h; rfl
  have hfs : ∀ fs ∈ fieldsets f, FsOk (definedOf f t) fs := by
    refine List.forall_mem_flatMap.mpr fun it hit fs hfs => ?_
    cases it with
    | struct s => cases List.mem_singleton.mp hfs; exact (hitems _ hit).2
    | enum e => obtain ⟨v, hv, rfl⟩ := List.mem_map.mp hfs; exact ((hitems _ hit).2.2.2 v hv).2
    | _ => cases hfs
  have hen : ∀ e ∈ enums f, ItemOk (definedOf f t) (.enum e) :=
    List.forall_mem_filterMap.mpr fun it hit e he => by cases it <;> cases he; exact hitems _ hit
  exact {
    oneStart := ⟨i, hi⟩
    oneTerminal := ⟨t, ht⟩
    startDefined := fun s hs => by cases hi.symm.trans hs; exact his
    refsDefined := fun t' h fs m sym hsym => by cases only t' h; cases sym <;> exact (hfs fs m).1 _ hsym
    topLevelDistinct := fun t' h => by cases only t' h; exact topDefs_names f t ▸ hnd
    variantNames := fun e he => (hen e he).2.1
    variantSeqs := fun e he => (hen e he).2.2.1
    upperTypes := List.forall_mem_filterMap.mpr fun it hit n hn => by
      cases it <;> cases hn <;> exact (hitems _ hit).1
    upperVariants := fun e he v hv => ((hen e he).2.2.2 v hv).1
    upperTerminals := fun t' h => by cases only t' h; exact ⟨hut, huv⟩
    lowerFields := fun fs m => (hfs fs m).2 }

theorem getNonterminals_spec {f : File} {t : TermEnum} (ht : terminals f = [t]) : Spec (getNonterminals f)
    (fun nts => nts = ntsOf f.items ∧ ∀ it ∈ f.items, ItemOk (definedOf f t) it)
    (Truthful f) :=
  (getDefinedSymbols_spec ht).bind fun _ hd => by
    subst hd
    exact (validateNonterminals_spec _ _).err_imp fun _ ⟨_, hit, h⟩ => itemErr_truthful ht hit h

/-- **C10**: `validate_ast` returns the declarations of a well-formed file (one `start`, one `terminal`, the structs
and enums in order), or an error that names a rule the file really breaks; it has no panicking path -/
theorem validateAst_spec (f : File) : Spec (validateAst f)
    (fun v => WellFormed f ∧ ∃ t i, terminals f = [t] ∧ starts f = [i] ∧
      v = ⟨i.name, ⟨t.attrs, t.name.name, t.variants.map fun v => ⟨Tokenize.removeDollars v.name.name, typeToString v.ty⟩⟩,
        ntsOf f.items⟩)
    (Truthful f) :=
  (getTerminalEnum_spec f).bind fun _ ⟨t, ht, hut, huv, hte⟩ =>
    (getNonterminals_spec ht).bind fun _ ⟨hnts, hitems⟩ =>
      (getStart_spec (hnts ▸ ntsOf_names f)).bind fun _ ⟨i, hi, hs, his⟩ =>
        (noClashes_spec ht).bind fun _ hnd =>
          ⟨wellFormed_of ht hi his hut huv hitems hnd, t, i, ht, hi, by rw [hs, hte, hnts]⟩

theorem validate_ok_wellFormed {f : File} {v : VFile.File} (h : validateAst f = .ok v) : WellFormed f :=
  ((validateAst_spec f).of_ok h).1

theorem validate_err_truthful {f : File} {e : KErr} (h : validateAst f = .err e) : Truthful f e :=
  (validateAst_spec f).of_err h

def NP {α : Type} (x : Res α) : Prop := ∀ s, x ≠ .panic s

theorem validate_no_panic (f : File) : NP (validateAst f) := (validateAst_spec f).no_panic

end Validate
end KikiVerif
