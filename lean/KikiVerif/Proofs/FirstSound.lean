/-
Soundness of the FIRST map: every terminal in `FIRST(B)` really begins a sentential form derived from `B`,
and a nonterminal marked nullable really derives the empty string — for every grammar, every iteration of the
fixpoint loop.  (Completeness, w.r.t. derivation trees, is `Valid.first_complete` from closedness.)
-/
import KikiVerif.Proofs.First
import KikiVerif.LR.Via

namespace KikiVerif
namespace Machine
open LR (Sym Rule Grammar Derives)
open Valid (seqTerms seqNullable)

def FmSound (g : Grammar Nat Nat) (fm : List FirstSet) : Prop :=
  ∀ B f, fm[B]? = some f →
    (f.eps = true → Derives g [.n B] []) ∧ (∀ a ∈ f.terminals, ∃ γ, Derives g [.n B] (.t a :: γ))

theorem seqNullable_sound {g : Grammar Nat Nat} {fm : List FirstSet} (hs : FmSound g fm) :
    ∀ β : List (Sym Nat Nat), seqNullable (toTbl fm) β = true → Derives g β []
  | [], _ => .refl _
  | .t a :: _, h => by simp [seqNullable] at h
  | .n B :: rest, h => by
    obtain ⟨f, hb, he, hr⟩ := seqNullable_cons_n.mp h
    -- B rest ⇒* rest ⇒* ε
    simpa using (Derives.context [] rest ((hs B f hb).1 he)).trans (seqNullable_sound hs rest hr)

theorem seqTerms_sound {g : Grammar Nat Nat} {fm : List FirstSet} (hs : FmSound g fm) :
    ∀ β : List (Sym Nat Nat), ∀ a ∈ seqTerms (toTbl fm) β, ∃ γ, Derives g β (.t a :: γ)
  | [], a, ha => by simp [seqTerms] at ha
  | .t b :: rest, a, ha => by
    obtain rfl : a = b := by simpa [seqTerms] using ha
    exact ⟨rest, .refl _⟩
  | .n B :: rest, a, ha => by
    obtain ⟨f, hb, ha | ⟨he, ha⟩⟩ := mem_seqTerms_cons_n.mp ha
    · obtain ⟨γ, hγ⟩ := (hs B f hb).2 a ha
      exact ⟨γ ++ rest, by simpa using Derives.context [] rest hγ⟩
    · obtain ⟨γ, hγ⟩ := seqTerms_sound hs rest a ha
      exact ⟨γ, by simpa using (Derives.context [] rest ((hs B f hb).1 he)).trans hγ⟩

theorem expandRule_sound {g : Grammar Nat Nat} {fm fm' : List FirstSet} {r : Rule Nat Nat} {ch : Bool}
    (hs : FmSound g fm) (hr : r ∈ g.rules) (h : expandRule fm r = some (fm', ch)) : FmSound g fm' := by
  obtain ⟨cur, old, hcur, hold, rfl, -⟩ := expandRule_eq h
  obtain ⟨hmem, heps⟩ := currentFirst_spec fm r.rhs _ cur hcur
  intro B f hB
  by_cases e : r.lhs = B
  · subst e
    rw [List.getElem?_set_self (List.getElem?_eq_some_iff.mp hold).1] at hB
    cases hB
    obtain ⟨o1, o2⟩ := hs r.lhs old hold
    constructor
    · intro he
      rcases Bool.or_eq_true_iff.mp he with he | he
      · exact o1 he
      · exact (Derives.rule hr).trans (seqNullable_sound hs r.rhs (by simpa [heps] using he))
    · intro a ha
      rcases (Oset.mem_extend _ _ a).mp ha with h1 | h1
      · exact o2 a h1
      · rcases (hmem a).mp h1 with h2 | h2
        · cases h2
        · obtain ⟨γ, hγ⟩ := seqTerms_sound hs r.rhs a h2
          exact ⟨γ, (Derives.rule hr).trans hγ⟩
  · rw [List.getElem?_set_ne e] at hB
    exact hs B f hB

/-- **FIRST sets are sound, every grammar**: a terminal in `FIRST(B)` begins a sentential form derived from `B`;
a nonterminal marked nullable derives the empty string -/
theorem firstSets_sound {c : Ctx} {fuel : Nat} {fm : List FirstSet} (h : firstSets c fuel = some (some fm)) :
    FmSound c.g fm := by
  refine firstLoop_induct (fun r hr _ _ _ hs h => expandRule_sound hs hr h) fuel (fun B f hB => ?_) h
  cases mem_emptyFirst (List.mem_of_getElem? hB)
  exact ⟨nofun, nofun⟩

end Machine
end KikiVerif
