/-
Every token the scanner returns sits in the source exactly where it says: the source is
`pre ++ text(token) ++ post` with `pre` having as many bytes as the token's start position.
Hence (via `tokenize = scan`) every `&src[start..end]` the later stages compute from a token is a valid slice
and is the token's text.
-/
import KikiVerif.Proofs.Tokenize

namespace KikiVerif
namespace Spec
open Text Tokenize

/-- the characters a token was made from -/
def tokText : Token → Str
  | .underscore _ => "_".toList
  | .ident n _ => n
  | .termIdent n _ => '$' :: n
  | .attr s _ => s
  | .startKw _ => "start".toList
  | .structKw _ => "struct".toList
  | .enumKw _ => "enum".toList
  | .terminalKw _ => "terminal".toList
  | .colon _ => ":".toList
  | .dcolon _ => "::".toList
  | .comma _ => ",".toList
  | .lparen _ => "(".toList
  | .rparen _ => ")".toList
  | .lcurly _ => "{".toList
  | .rcurly _ => "}".toList
  | .langle _ => "<".toList
  | .rangle _ => ">".toList

/-- byte offset of the first character of the token (`Token::start`) -/
def tokStart : Token → Nat
  | .underscore p => p
  | .ident _ p => p
  | .termIdent _ p => p - 1
  | .attr _ p => p
  | .startKw p => p
  | .structKw p => p
  | .enumKw p => p
  | .terminalKw p => p
  | .colon p => p
  | .dcolon p => p
  | .comma p => p
  | .lparen p => p
  | .rparen p => p
  | .lcurly p => p
  | .rcurly p => p
  | .langle p => p
  | .rangle p => p

/-- a terminal identifier's `dollarless_position` is at least 1 (there is a `$` before it) and its name consists
of identifier characters -/
def posOk : Token → Prop
  | .termIdent n dp => 1 ≤ dp ∧ ∀ c ∈ n, isIdentChar c = true
  | _ => True

theorem reserved_some {w : Str} {p : Nat} {t : Token} (h : reserved w p = some t) :
    tokText t = w ∧ tokStart t = p ∧ posOk t := by
  rcases reserved_cases w with e | ⟨e, hr⟩ | ⟨e, hr⟩ | ⟨e, hr⟩ | ⟨e, hr⟩ | ⟨e, hr⟩
  · rw [e] at h; cases h
  all_goals rw [hr] at h; cases h; exact ⟨e.symm, rfl, trivial⟩

theorem punct_some {c : Char} {p : Nat} {t : Token} (h : punct c p = some t) :
    tokText t = [c] ∧ tokStart t = p ∧ posOk t := by
  unfold punct at h
  split at h <;> first | (cases h; exact ⟨rfl, rfl, trivial⟩) | cases h

theorem Lex.text {w post : Str} {i k : Nat} {t : Token} (h : Lex w post i (.emit t k)) :
    tokText t = w ∧ tokStart t = i ∧ posOk t := by
  cases h with
  | ident =>
    unfold identTok
    cases hr : reserved _ i with
    | none => exact ⟨rfl, rfl, trivial⟩
    | some t => exact reserved_some hr
  | termIdent _ hd ht =>
    exact ⟨rfl, Nat.add_sub_cancel .., Nat.le_add_left .., List.forall_mem_cons.mpr ⟨identStart_identChar hd, ht⟩⟩
  | dcolon | colon | attr => exact ⟨rfl, rfl, trivial⟩
  | punct _ _ _ hp => exact punct_some hp

theorem scanFrom_positions (src : Str) : ∀ (cs : Str) (i : Nat) (pre : Str) (ts : List Token), i = blen pre →
    src = pre ++ cs → scanFrom cs i = .ok ts →
    ∀ t ∈ ts, (∃ p q, src = p ++ tokText t ++ q ∧ blen p = tokStart t) ∧ posOk t := by
  intro cs i
  induction cs, i using scan_induction with
  | done i => intro pre ts _ _ h; rw [scanFrom_done rfl] at h; cases h; simp
  | bad post i j c hl => intro pre ts _ _ h; rw [scanFrom_bad (show next post i = _ from hl.eq)] at h; cases h
  | skip w post i k hl ih =>
    intro pre ts hi hsrc h
    rw [scanFrom_lex hl] at h
    exact ih (pre ++ w) ts (by simp [hi]) (by simp [hsrc]) h
  | emit w post i tok k hl ih =>
    intro pre ts hi hsrc h
    rw [scanFrom_lex hl] at h
    cases hr : scanFrom post (i + blen w) with
    | ok ts' =>
      rw [hr] at h; cases h
      obtain ⟨e1, e2, hpos⟩ := hl.text
      simp only [List.forall_mem_cons]
      exact ⟨⟨⟨pre, post, by rw [e1, hsrc, List.append_assoc], by rw [e2, hi]⟩, hpos⟩,
        ih (pre ++ w) ts' (by simp [hi]) (by simp [hsrc]) hr⟩
    | err e => rw [hr] at h; cases h
    | panic s => rw [hr] at h; cases h

/-- **every token of `tokenize src` is where it says, and slicing the source by its span gives its text** -/
theorem tokenize_positions (src : Str) (ts : List Token) (h : Tokenize.tokenize src = .ok ts) :
    ∀ t ∈ ts, sliceBytes src (tokStart t) (tokStart t + blen (tokText t)) = some (tokText t) ∧ posOk t := by
  rw [Tokenize.tokenize_eq_scan] at h
  intro t ht
  obtain ⟨⟨p, q, hsrc, hp⟩, hpos⟩ := scanFrom_positions src src 0 [] ts rfl rfl h t ht
  refine ⟨?_, hpos⟩
  rw [hsrc, ← hp]
  exact slice_mid p (tokText t) q

end Spec
end KikiVerif
