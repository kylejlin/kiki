/-
Termination of `get_first_sets`: the fixpoint loop ends after at most `nN * (nT + 1)` changing passes —
every changing pass adds a terminal to some FIRST set or makes a nonterminal nullable, and there is room for
only `nN * (nT + 1)` such additions.  So the model's loop returns for every fuel above that bound.
-/
import KikiVerif.Proofs.First

namespace KikiVerif
namespace Machine
open LR (Sym Rule Grammar)

def entrySize (f : FirstSet) : Nat := f.terminals.length + (if f.eps then 1 else 0)

def mu (fm : List FirstSet) : Nat := (fm.map entrySize).sum

theorem mu_bound {nT : Nat} {fm : List FirstSet} (hs : FmSorted fm) (hb : FmBound nT fm) :
    mu fm ≤ fm.length * (nT + 1) := by
  have := List.sum_le_mul (fm.map entrySize) (nT + 1) (by
    intro x hx
    obtain ⟨f, hf, rfl⟩ := List.mem_map.mp hx
    have := (Oset.Sorted.nodup (hs f hf)).length_le_of_lt (hb f hf)
    unfold entrySize
    split <;> omega)
  simpa [mu] using this

theorem expandRule_mu {fm fm' : List FirstSet} {r : Rule Nat Nat} {ch : Bool} (hs : FmSorted fm)
    (h : expandRule fm r = some (fm', ch)) : mu fm ≤ mu fm' ∧ (ch = true → mu fm < mu fm') := by
  obtain ⟨cur, old, -, hold, rfl, rfl⟩ := expandRule_eq h
  have hlen : old.terminals.length ≤ (Oset.extend ⟨old.terminals⟩ cur.terminals).raw.length :=
    (Oset.Sorted.nodup (hs old (List.mem_of_getElem? hold))).length_le_of_subset
      fun x hx => (Oset.mem_extend _ _ x).mpr (Or.inl hx)
  have hset := List.sum_map_set entrySize ⟨(Oset.extend ⟨old.terminals⟩ cur.terminals).raw, old.eps || cur.eps⟩ hold
  simp only [entrySize] at hset
  unfold mu
  cases ho : old.eps <;> cases hc : cur.eps <;> simp [ho, hc] at hset ⊢ <;> omega

theorem expand_mu (rules : List (Rule Nat Nat)) (fm fm' : List FirstSet) (ch ch' : Bool) (hs : FmSorted fm)
    (h : expand rules fm ch = some (fm', ch')) : mu fm ≤ mu fm' ∧ (ch' = true → ch = true ∨ mu fm < mu fm') := by
  fun_induction expand rules fm ch with
  | case1 => cases h; exact ⟨Nat.le_refl _, Or.inl⟩
  | case2 => cases h
  | case3 r _ fm ch fm1 ch1 h1 ih =>
    obtain ⟨m1, m2⟩ := expandRule_mu hs h1
    obtain ⟨m3, m4⟩ := ih (expandRule_spec hs h1).1 h
    refine ⟨Nat.le_trans m1 m3, fun hch => ?_⟩
    rcases m4 hch with h5 | h5
    · rcases Bool.or_eq_true _ _ ▸ h5 with h5 | h5
      · exact Or.inl h5
      · exact Or.inr (Nat.lt_of_lt_of_le (m2 h5) m3)
    · exact Or.inr (Nat.lt_of_le_of_lt m1 h5)

theorem firstLoop_terminates {c : Ctx} (ok : Assemble.CtxOK c) (k : Nat) (fm : List FirstSet)
    (hlen : fm.length = c.nN) (hs : FmSorted fm) (hb : FmBound c.nT fm) (hk : c.nN * (c.nT + 1) - mu fm < k) :
    firstLoop c.g.rules k fm ≠ none := by
  fun_induction firstLoop c.g.rules k fm with
  | case1 => omega
  | case2 => nofun  -- a pass that panics ends the loop with `some none`
  | case3 _ fm fm' he ih =>
    -- a changing pass: the measure rises, and stays below `nN * (nT + 1)`
    obtain ⟨hs', hl', _⟩ := expand_spec _ _ _ _ _ hs he
    have hb' := expand_bound _ _ _ _ _ hb ok.terms he
    have hlt := ((expand_mu _ _ _ _ _ hs he).2 rfl).resolve_left nofun
    have hbound := mu_bound hs' hb'
    rw [hl', hlen] at hbound
    exact ih (hl'.trans hlen) hs' hb' (by omega)
  | case4 => nofun

/-- **`get_first_sets` terminates**: with any fuel above `nN * (nT + 1)` the model's loop returns -/
theorem firstSets_terminates {c : Ctx} (ok : Assemble.CtxOK c) (fuel : Nat) (h : c.nN * (c.nT + 1) < fuel) :
    firstSets c fuel ≠ none :=
  firstLoop_terminates ok fuel _ (by simp [emptyFirst]) (emptyFirst_sorted _)
    (fun _ hf _ ha => by cases mem_emptyFirst hf; cases ha) (by omega)

end Machine
end KikiVerif
