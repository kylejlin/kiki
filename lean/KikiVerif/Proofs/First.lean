/-
`get_first_sets` (`first_set_map.rs`): when the fixpoint loop returns, the map it returns is closed under the
FIRST / nullable equations of every rule — the condition `firstClosedB` of the validator, for every grammar.
-/
import KikiVerif.Model.Machine
import KikiVerif.Proofs.Oset
import KikiVerif.Proofs.Valid

namespace KikiVerif
namespace Machine
open LR (Sym Rule Grammar)
open Valid (FirstTbl seqTerms seqNullable firstClosedB)

/-- the map as the validator's FIRST table -/
def toTbl (fm : List FirstSet) : FirstTbl := fm.map fun f => (f.terminals, f.eps)

theorem toTbl_getD (fm : List FirstSet) (b : Nat) (f : FirstSet) (h : fm[b]? = some f) :
    (toTbl fm).getD b ([], false) = (f.terminals, f.eps) := by
  simp [toTbl, h]

theorem mem_seqTerms_cons_n {fm : List FirstSet} {b : Nat} {rest : List (Sym Nat Nat)} {x : Nat} :
    x ∈ seqTerms (toTbl fm) (.n b :: rest) ↔
      ∃ f, fm[b]? = some f ∧ (x ∈ f.terminals ∨ f.eps = true ∧ x ∈ seqTerms (toTbl fm) rest) := by
  cases h : fm[b]? <;> simp [seqTerms, toTbl, h]

theorem seqNullable_cons_n {fm : List FirstSet} {b : Nat} {rest : List (Sym Nat Nat)} :
    seqNullable (toTbl fm) (.n b :: rest) = true ↔
      ∃ f, fm[b]? = some f ∧ f.eps = true ∧ seqNullable (toTbl fm) rest = true := by
  cases h : fm[b]? <;> simp [seqNullable, toTbl, h]

/-- `get_current_first_set_for_*`: FIRST of the right-hand side w.r.t. the current map -/
theorem currentFirst_spec (fm : List FirstSet) : ∀ (rhs : List (Sym Nat Nat)) (out cur : FirstSet),
    currentFirst fm rhs out = some cur →
      (∀ x, x ∈ cur.terminals ↔ x ∈ out.terminals ∨ x ∈ seqTerms (toTbl fm) rhs) ∧
      cur.eps = (out.eps && seqNullable (toTbl fm) rhs)
  | [], out, cur, h => by cases h; simp [seqTerms, seqNullable]
  | .t a :: _, out, cur, h => by cases h; simp [seqTerms, seqNullable, Oset.mem_extend]
  | .n b :: rest, out, cur, h => by
    simp only [currentFirst] at h
    cases hb : fm[b]? with
    | none => simp [hb] at h
    | some f =>
      simp only [hb] at h
      simp only [seqTerms, seqNullable, toTbl_getD fm b f hb]
      cases he : f.eps with
      | true =>
        obtain ⟨h1, h2⟩ := currentFirst_spec fm rest _ cur (by simpa [he] using h)
        simp [h1, h2, Oset.mem_extend, or_assoc]
      | false =>
        obtain rfl : _ = cur := by simpa [he] using h
        simp [Oset.mem_extend]

/-- `get_first_of_symbol_sequence` is `get_current_first_set_*` started from a nullable accumulator -/
theorem firstOfSeq_eq (fm : List FirstSet) (β : List (Sym Nat Nat)) (ts : List Nat) (hs : Oset.Sorted ts) :
    firstOfSeq fm β ts = currentFirst fm β ⟨ts, true⟩ := by
  fun_induction firstOfSeq fm β ts with
  | case1 => rfl
  | case2 a _ ts =>
    simp only [currentFirst]
    rw [Oset.sorted_ext _ _ (Oset.insert_sorted ⟨ts⟩ a hs) (Oset.extend_sorted ⟨ts⟩ [a]) fun x => by
      rw [Oset.mem_insert _ _ _ hs, Oset.mem_extend]; simp [or_comm]]
  | case3 b rest ts hb => simp only [currentFirst, hb]
  | case4 b rest ts f hb ts' he ih => simp only [currentFirst, hb, he, if_true]; exact ih (Oset.extend_sorted _ _)
  | case5 b rest ts f hb ts' he => simp only [currentFirst, hb, he]; rfl

/-- `get_first_of_symbol_sequence`: the same, accumulated into a sorted list -/
theorem firstOfSeq_spec (fm : List FirstSet) (β : List (Sym Nat Nat)) (ts : List Nat) (f : FirstSet)
    (hs : Oset.Sorted ts) (h : firstOfSeq fm β ts = some f) :
    (∀ x, x ∈ f.terminals ↔ x ∈ ts ∨ x ∈ seqTerms (toTbl fm) β) ∧ f.eps = seqNullable (toTbl fm) β := by
  simpa using currentFirst_spec fm β ⟨ts, true⟩ f (firstOfSeq_eq fm β ts hs ▸ h)

theorem augmentedFirst_eq_some {fm : List FirstSet} {β : List (Sym Nat Nat)} {la : Nat} {las : List Nat} :
    augmentedFirst fm β la = some las ↔ ∃ f, firstOfSeq fm β [] = some f ∧
      las = (Oset.ofList (if f.eps then f.terminals ++ [la] else f.terminals)).raw := by
  unfold augmentedFirst
  cases firstOfSeq fm β [] with
  | none => simp
  | some f =>
    obtain ⟨ts, eps⟩ := f
    cases eps <;> simp <;> exact eq_comm

/-- `get_augmented_first_after_dot`: the lookaheads `FIRST(β a)` -/
theorem las_mem {fm : List FirstSet} {β : List (Sym Nat Nat)} {la : Nat} {las : List Nat}
    (h : augmentedFirst fm β la = some las) (x : Nat) :
    x ∈ las ↔ x ∈ seqTerms (toTbl fm) β ∨ (seqNullable (toTbl fm) β = true ∧ x = la) := by
  obtain ⟨f, hf, rfl⟩ := augmentedFirst_eq_some.mp h
  obtain ⟨h1, h2⟩ := firstOfSeq_spec fm β [] f List.Pairwise.nil hf
  cases he : f.eps <;> simp [Oset.mem_ofList, h1, ← h2, he]

theorem expand_induct {P : List FirstSet → Prop} (rules : List (Rule Nat Nat))
    (step : ∀ r ∈ rules, ∀ fm fm' ch, P fm → expandRule fm r = some (fm', ch) → P fm')
    {fm fm' : List FirstSet} {ch ch' : Bool} (h0 : P fm) (h : expand rules fm ch = some (fm', ch')) : P fm' := by
  fun_induction expand rules fm ch with
  | case1 => cases h; exact h0
  | case2 => cases h
  | case3 r rs fm ch fm1 ch1 h1 ih =>
    exact ih (fun r' hr' => step r' (List.mem_cons_of_mem _ hr')) (step r List.mem_cons_self _ _ _ h0 h1) h

theorem firstLoop_induct {P : List FirstSet → Prop} {rules : List (Rule Nat Nat)}
    (step : ∀ r ∈ rules, ∀ fm fm' ch, P fm → expandRule fm r = some (fm', ch) → P fm')
    (fuel : Nat) {fm0 fm : List FirstSet} (h0 : P fm0) (h : firstLoop rules fuel fm0 = some (some fm)) : P fm := by
  fun_induction firstLoop rules fuel fm0 with
  | case1 | case2 => cases h
  | case3 fuel fm0 fm1 hexp ih => exact ih (expand_induct rules step h0 hexp) h
  | case4 fuel fm0 fm1 ch hexp hch => cases h; exact expand_induct rules step h0 hexp

theorem mem_emptyFirst {n : Nat} {f : FirstSet} (h : f ∈ emptyFirst n) : f = ⟨[], false⟩ :=
  List.eq_of_mem_replicate h

/-- every FIRST set of the map is strictly ascending -/
def FmSorted (fm : List FirstSet) : Prop := ∀ f ∈ fm, Oset.Sorted f.terminals

/-- what it means for one rule to be satisfied by the map -/
def RuleClosed (fm : List FirstSet) (r : Rule Nat Nat) : Prop :=
  ∃ old, fm[r.lhs]? = some old ∧ (∀ x ∈ seqTerms (toTbl fm) r.rhs, x ∈ old.terminals) ∧
    (seqNullable (toTbl fm) r.rhs = true → old.eps = true)

theorem expandRule_eq {fm fm' : List FirstSet} {r : Rule Nat Nat} {ch : Bool} (h : expandRule fm r = some (fm', ch)) :
    ∃ cur old, currentFirst fm r.rhs ⟨[], true⟩ = some cur ∧ fm[r.lhs]? = some old ∧
      fm' = fm.set r.lhs ⟨(Oset.extend ⟨old.terminals⟩ cur.terminals).raw, old.eps || cur.eps⟩ ∧
      ch = ((Oset.extend ⟨old.terminals⟩ cur.terminals).raw.length != old.terminals.length ||
        (old.eps || cur.eps) != old.eps) := by
  unfold expandRule at h
  split at h
  · rename_i cur old hcur hold
    simp only [addAll, Option.some.injEq, Prod.mk.injEq] at h
    exact ⟨cur, old, hcur, hold, h.1.symm, h.2.symm⟩
  · cases h

/-- `expand_rule`: keeps the sets sorted; if it reports no change, the map is unchanged and satisfies the rule -/
theorem expandRule_spec {fm fm' : List FirstSet} {r : Rule Nat Nat} {ch : Bool} (hs : FmSorted fm)
    (h : expandRule fm r = some (fm', ch)) :
    FmSorted fm' ∧ fm'.length = fm.length ∧ (ch = false → fm' = fm ∧ RuleClosed fm r) := by
  obtain ⟨cur, old, hcur, hold, rfl, rfl⟩ := expandRule_eq h
  obtain ⟨hmem, heps⟩ := currentFirst_spec fm r.rhs _ cur hcur
  have hold_sorted : Oset.Sorted old.terminals := hs old (List.mem_of_getElem? hold)
  have hext_sorted := Oset.extend_sorted (⟨old.terminals⟩ : Oset Nat) cur.terminals
  refine ⟨fun f hf => (List.mem_or_eq_of_mem_set hf).elim (hs f) (· ▸ hext_sorted), by simp, fun hch => ?_⟩
  simp only [Bool.or_eq_false_iff, bne_eq_false_iff_eq] at hch
  obtain ⟨hlen, hepseq⟩ := hch
  -- the extended list includes the old one and is not longer, so it has no further element
  have hsub : old.terminals ⊆ (Oset.extend ⟨old.terminals⟩ cur.terminals).raw :=
    fun x hx => (Oset.mem_extend _ _ x).mpr (Or.inl hx)
  have hback : ∀ x ∈ (Oset.extend ⟨old.terminals⟩ cur.terminals).raw, x ∈ old.terminals :=
    fun x hx => hold_sorted.nodup.subset_of_length_le hsub (by omega) hx
  have heq : (Oset.extend ⟨old.terminals⟩ cur.terminals).raw = old.terminals :=
    Oset.sorted_ext _ _ hext_sorted hold_sorted fun x => ⟨hback x, fun hx => hsub hx⟩
  obtain ⟨hlt, hget⟩ := List.getElem?_eq_some_iff.mp hold
  refine ⟨by rw [heq, hepseq, ← hget]; exact List.set_getElem_self hlt, old, hold, fun x hx => ?_, fun hn => ?_⟩
  · exact hback x ((Oset.mem_extend _ _ x).mpr (Or.inr ((hmem x).mpr (Or.inr hx))))
  · simpa [heps, hn] using hepseq

theorem expand_spec : ∀ (rules : List (Rule Nat Nat)) (fm fm' : List FirstSet) (ch ch' : Bool), FmSorted fm →
    expand rules fm ch = some (fm', ch') →
    FmSorted fm' ∧ fm'.length = fm.length ∧
      (ch' = false → ch = false ∧ fm' = fm ∧ ∀ r ∈ rules, RuleClosed fm r) := by
  intro rules fm fm' ch ch' hs h
  fun_induction expand rules fm ch with
  | case1 => cases h; exact ⟨hs, rfl, fun h => ⟨h, rfl, by simp⟩⟩
  | case2 => cases h
  | case3 r rs fm ch fm1 ch1 h1 ih =>
    obtain ⟨hs1, hl1, hc1⟩ := expandRule_spec hs h1
    obtain ⟨hs2, hl2, hc2⟩ := ih hs1 h
    refine ⟨hs2, by rw [hl2, hl1], fun hch => ?_⟩
    obtain ⟨hor, heq, hall⟩ := hc2 hch
    simp only [Bool.or_eq_false_iff] at hor
    obtain ⟨rfl, hr⟩ := hc1 hor.2
    exact ⟨hor.1, heq, List.forall_mem_cons.mpr ⟨hr, hall⟩⟩

theorem firstLoop_spec (rules : List (Rule Nat Nat)) (fuel : Nat) (fm0 fm : List FirstSet) (hs : FmSorted fm0)
    (h : firstLoop rules fuel fm0 = some (some fm)) :
    FmSorted fm ∧ fm.length = fm0.length ∧ ∀ r ∈ rules, RuleClosed fm r := by
  fun_induction firstLoop rules fuel fm0 with
  | case1 | case2 => cases h
  | case3 fuel fm0 fm1 hexp ih =>
    obtain ⟨hs1, hl1, -⟩ := expand_spec rules fm0 fm1 false true hs hexp
    obtain ⟨a, b, c⟩ := ih hs1 h
    exact ⟨a, by rw [b, hl1], c⟩
  | case4 fuel fm0 fm1 ch hexp hch =>
    cases h
    obtain ⟨_, rfl, hall⟩ := (expand_spec rules fm0 fm false ch hs hexp).2.2 (by simpa using hch)
    exact ⟨hs, rfl, hall⟩

theorem emptyFirst_sorted (n : Nat) : FmSorted (emptyFirst n) :=
  fun _ hf => mem_emptyFirst hf ▸ List.Pairwise.nil

/-- **FIRST sets, every grammar**: whenever `get_first_sets` returns, its result is closed under the FIRST and
nullable equations of every rule (the validator's `firstClosedB`), has one sorted entry per nonterminal -/
theorem firstSets_closed {c : Ctx} {fuel : Nat} {fm : List FirstSet} (h : firstSets c fuel = some (some fm)) :
    firstClosedB c.g (toTbl fm) = true ∧ fm.length = c.nN ∧ FmSorted fm := by
  obtain ⟨hs, hl, hall⟩ := firstLoop_spec _ _ _ _ (emptyFirst_sorted _) h
  refine ⟨?_, by rw [hl]; simp [emptyFirst], hs⟩
  unfold firstClosedB
  rw [List.all_eq_true]
  intro r hr
  obtain ⟨old, hold, h1, h2⟩ := hall r hr
  simp only [Bool.and_eq_true, List.all_eq_true, Bool.or_eq_true, Bool.not_eq_true', toTbl_getD fm r.lhs old hold]
  refine ⟨fun x hx => List.contains_iff_mem.mpr (h1 x hx), ?_⟩
  cases hn : seqNullable (toTbl fm) r.rhs with
  | false => exact Or.inl rfl
  | true => exact Or.inr (h2 hn)

/-- terminals of the coded grammar are below `nT` (established by `Encode`) -/
def CtxWF (c : Ctx) : Prop := ∀ r ∈ c.g.rules, ∀ a, Sym.t a ∈ r.rhs → a < c.nT

def FmBound (nT : Nat) (fm : List FirstSet) : Prop := ∀ f ∈ fm, ∀ a ∈ f.terminals, a < nT

theorem seqTerms_bound {nT : Nat} {fm : List FirstSet} (hb : FmBound nT fm) :
    ∀ (β : List (Sym Nat Nat)), (∀ a, Sym.t a ∈ β → a < nT) → ∀ x ∈ seqTerms (toTbl fm) β, x < nT
  | [], _, x, hx => by simp [seqTerms] at hx
  | .t a :: _, hβ, x, hx => by
    obtain rfl : x = a := by simpa [seqTerms] using hx
    exact hβ x List.mem_cons_self
  | .n b :: rest, hβ, x, hx => by
    obtain ⟨f, hf, hx | ⟨_, hx⟩⟩ := mem_seqTerms_cons_n.mp hx
    · exact hb f (List.mem_of_getElem? hf) x hx
    · exact seqTerms_bound hb rest (fun a ha => hβ a (List.mem_cons_of_mem _ ha)) x hx

theorem las_bound {nT : Nat} {fm : List FirstSet} (hb : FmBound nT fm) {β : List (Sym Nat Nat)} {la : Nat} {las : List Nat}
    (hβ : ∀ a, Sym.t a ∈ β → a < nT) (h : augmentedFirst fm β la = some las) : ∀ x ∈ las, x < nT ∨ x = la :=
  fun x hx => ((las_mem h x).mp hx).imp (seqTerms_bound hb β hβ x) And.right

theorem las_sorted {fm : List FirstSet} {β : List (Sym Nat Nat)} {la : Nat} {las : List Nat}
    (h : augmentedFirst fm β la = some las) : Oset.Sorted las := by
  obtain ⟨f, -, rfl⟩ := augmentedFirst_eq_some.mp h
  exact Oset.ofList_sorted _

theorem expandRule_bound {nT : Nat} {fm fm' : List FirstSet} {r : Rule Nat Nat} {ch : Bool} (hb : FmBound nT fm)
    (hr : ∀ a, Sym.t a ∈ r.rhs → a < nT) (h : expandRule fm r = some (fm', ch)) : FmBound nT fm' := by
  obtain ⟨cur, old, hcur, hold, rfl, -⟩ := expandRule_eq h
  intro f hf a ha
  rcases List.mem_or_eq_of_mem_set hf with hf | rfl
  · exact hb f hf a ha
  · rcases (Oset.mem_extend _ _ a).mp ha with h1 | h1
    · exact hb old (List.mem_of_getElem? hold) a h1
    · rcases ((currentFirst_spec fm r.rhs _ cur hcur).1 a).mp h1 with h2 | h2
      · cases h2
      · exact seqTerms_bound hb r.rhs hr a h2

theorem expand_bound {nT : Nat} (rules : List (Rule Nat Nat)) (fm fm' : List FirstSet) (ch ch' : Bool)
    (hb : FmBound nT fm) (hr : ∀ r ∈ rules, ∀ a, Sym.t a ∈ r.rhs → a < nT) (h : expand rules fm ch = some (fm', ch')) :
    FmBound nT fm' :=
  expand_induct rules (fun r hm _ _ _ hb h => expandRule_bound hb (hr r hm) h) hb h

theorem firstSets_bound {c : Ctx} (hwf : CtxWF c) {fuel : Nat} {fm : List FirstSet}
    (h : firstSets c fuel = some (some fm)) : FmBound c.nT fm :=
  firstLoop_induct (fun r hm _ _ _ hb h => expandRule_bound hb (hwf r hm) h) fuel
    (fun _ hf _ ha => by cases mem_emptyFirst hf; cases ha) h

end Machine

namespace Assemble
open Machine
open LR (Sym)

structure CtxOK (c : Ctx) : Prop where
  terms : CtxWF c
  start : c.g.start < c.nN
  lhs : ∀ r ∈ c.g.rules, r.lhs < c.nN
  nts : ∀ r ∈ c.g.rules, ∀ b, Sym.n b ∈ r.rhs → b < c.nN

end Assemble
end KikiVerif
