/-
The emitter's field lists in closed form (the used fields, each with the type of its symbol), and what `moduleOf`
copies from the validated file.
-/
import KikiVerif.Model.Emit
import KikiVerif.Proofs.Basic

namespace KikiVerif

namespace C06
open Ast

/-- the fields the user named (a `_` field is not part of the emitted type), in order -/
def usedNamed (fs : List NamedField) : List (Str × SymId) :=
  fs.filterMap fun f => match f.name with | .id i => some (i.name, f.sym) | .us _ => none

def usedTuple (fs : List TupleField) : List SymId :=
  fs.filterMap fun | .used s => some s | .skipped _ => none

end C06

namespace Emit
open Ast C06

theorem namedFieldTypes_eq (te : VFile.TermEnum) : ∀ fs : List NamedField,
    namedFieldTypes te fs = (usedNamed fs).mapM fun p => (fieldType te p.2).map (p.1, ·)
  | [] => rfl
  | f :: fs => by
    simp only [namedFieldTypes, usedNamed, List.filterMap_cons]
    cases f.name with
    | us _ => exact namedFieldTypes_eq te fs
    | id i =>
      simp only [List.mapM_cons, namedFieldTypes_eq te fs, usedNamed]
      cases fieldType te f.sym <;> rfl

theorem tupleFieldTypes_eq (te : VFile.TermEnum) : ∀ fs : List TupleField,
    tupleFieldTypes te fs = (usedTuple fs).mapM (fieldType te)
  | [] => rfl
  | .skipped _ :: fs => tupleFieldTypes_eq te fs
  | .used s :: fs => by
    simp only [tupleFieldTypes, usedTuple, List.filterMap_cons, List.mapM_cons, tupleFieldTypes_eq te fs]

theorem methodNames_fst (te : VFile.TermEnum) : (methodNames te).map (·.1) = te.variants.map (·.name) :=
  (List.map_map ..).trans (List.map_zipIdx_fst VFile.TermVariant.name ..)

theorem moduleOf_spec {f : VFile.File} {enc : Encode.Enc} {t : Table.Table} {sha : Str} {m : Module}
    (h : moduleOf f enc t sha = some m) :
    m.sha = sha ∧ m.tenumAttrs = attrSrcs f.tenum.attrs ∧ m.tenumName = f.tenum.name ∧
    m.tenumVariants = f.tenum.variants.map (fun v => (v.name, v.ty)) ∧
    m.startType = f.start ∧ m.nonterminals = f.nonterminals.map (·.name) ∧
    m.methods = methodNames f.tenum ∧
    f.nonterminals.mapM (typeDefOf f.tenum) = some m.types ∧
    chooseNames f.definedIdentifiers = some m.names := by
  simp only [moduleOf, Option.bind_eq_bind, Option.pure_def, Option.bind_eq_some_iff, Option.some.injEq] at h
  obtain ⟨names, hn, types, ht, rfs, -, rfl⟩ := h
  exact ⟨rfl, rfl, rfl, rfl, rfl, rfl, rfl, ht, hn⟩

end Emit
end KikiVerif
